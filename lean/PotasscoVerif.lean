import PotasscoVerif.Props.C01
import PotasscoVerif.Props.C01m
import PotasscoVerif.Props.C02
import PotasscoVerif.Props.C02m
import PotasscoVerif.Props.C02o
import PotasscoVerif.Props.C02sem
import PotasscoVerif.Props.C02x
import PotasscoVerif.Props.C03
import PotasscoVerif.Props.C03b
import PotasscoVerif.Props.C03c
import PotasscoVerif.Props.C03m
import PotasscoVerif.Props.C04
import PotasscoVerif.Props.C04Aspif
import PotasscoVerif.Props.C04Smodels
import PotasscoVerif.Props.C04Text
import PotasscoVerif.Props.C05
import PotasscoVerif.Props.C05m
import PotasscoVerif.Props.C06
import PotasscoVerif.Props.C06p
import PotasscoVerif.Props.C07
import PotasscoVerif.Props.C07b
import PotasscoVerif.Props.C08
import PotasscoVerif.Props.C08b
import PotasscoVerif.Props.C08c
import PotasscoVerif.Props.C08d
import PotasscoVerif.Props.C09
import PotasscoVerif.Props.C09l
import PotasscoVerif.Props.C10
import PotasscoVerif.Props.C10b
import PotasscoVerif.Props.C10c
import PotasscoVerif.Props.C10d
import PotasscoVerif.Props.C10e
import PotasscoVerif.Props.C10m
import PotasscoVerif.Props.C10p
import PotasscoVerif.Props.C11
import PotasscoVerif.Props.C11m
import PotasscoVerif.Props.C12
import PotasscoVerif.Props.C12p
import PotasscoVerif.Props.C13
import PotasscoVerif.Props.C13b
import PotasscoVerif.Props.C13c
import PotasscoVerif.Props.C13d
import PotasscoVerif.Props.C13e
import PotasscoVerif.Props.C14
import PotasscoVerif.Props.C15
import PotasscoVerif.Props.C16
import PotasscoVerif.Props.C16b
import PotasscoVerif.Props.C16c
import PotasscoVerif.Props.C16d
import PotasscoVerif.Props.C17
import PotasscoVerif.Props.C18
import PotasscoVerif.Props.C19
import PotasscoVerif.Props.C20
import PotasscoVerif.Props.C20rc
