/-
  Several incremental steps of the converter: the translation invariant `J` (Lemmas/ConvertSem.lean) and the flag tracker `XI`
  (Lemmas/ConvertFlags.lean) carried from step to step.  After any number of steps the emitted rules of ALL steps are a translation of the
  given rules of all steps under ONE atom map and ONE table of auxiliary atoms (`steps_JX`); what one step keeps holds after any number (`steps_ind`).
  Before that, `J` and `XI` over the end of a step from any state (`flush_flags`, `J.endStep`, `XI.endStep`) and over one step (`step_JX`).
-/
import PotasscoVerif.Lemmas.ConvertExt
import PotasscoVerif.Lemmas.ConvertOneStep
namespace PotasscoVerif.C02
open PotasscoVerif PotasscoVerif.Convert PotasscoVerif.Asp

theorem apply_plainJ {c : CS} {P defs} (hj : J c P defs) (x : Call) (hx : PlainOk x) :
    ∃ defs', J (c.apply x) (P ++ (rulesOf [x]).filter kept) defs' :=
  let ⟨defs', h, _⟩ := apply_J hj x hx
  ⟨defs', h⟩

theorem run_JX {c : CS} {P defs} {t : T} (hj : J c P defs) (hxi : XI c t) (ds : List Call) (hx : ∀ d ∈ ds, PlainOk d) :
    ∃ defs', J (ds.foldl CS.apply c) (P ++ (rulesOf ds).filter kept) defs' ∧ XI (ds.foldl CS.apply c) (t.run ds) := by
  have := run_ind (Q := fun c src => ∃ defs', J c (P ++ (rulesOf src).filter kept) defs' ∧ XI c (t.run src))
    (fun c src d hd ⟨defs1, h1, x1⟩ => by
      obtain ⟨defs2, h2⟩ := apply_plainJ h1 d hd
      rw [List.append_assoc, ← List.filter_append, ← rulesOf_append] at h2
      exact ⟨defs2, h2, run_snoc t src d ▸ x1.step h1.nofail d hd⟩)
    ds hx (c := c) (src := []) ⟨defs, (List.append_nil P).symm ▸ hj, hxi⟩
  rwa [List.nil_append] at this

/-! ### the end of a step, from any state -/
theorem heuStep_flags (c : CS) (h : Convert.Heu) : KeepsX c (heuStep c h) ∧ (heuStep c h).ext = c.ext := by
  rcases heuStep_cases c h with e | ⟨_, _, e⟩ | ⟨_, _, _, _, e⟩ <;> rw [e]
  · exact ⟨.refl c, rfl⟩
  · exact ⟨.of_eq rfl rfl, rfl⟩
  · exact ⟨(keepsX_updAtom c h.atom fun _ => true).trans (.of_eq rfl rfl), rfl⟩

theorem flush_flags (c : CS) (hm : ∀ a ∈ c.externs, a ∈ domOf c) :
    (∀ b, hd c.flush b = hd c b ∧ ex c.flush b = ex c b) ∧ c.flush.ext = c.ext := by
  have k := keepsX_flushMinimize c
  -- stated for a variable state first: across `c.flush` itself the unifier would unfold the whole flush
  let φ (c : CS) := (hd c, ex c, c.ext)
  have e1 : ∀ (c : CS) (x : Call), φ { (c.emit x) with minimize := [], externs := [], heur := [], output := [] } = φ c := fun _ _ => rfl
  have e2 : ∀ (c : CS) rs, φ { c with out := rs } = φ c := fun _ _ => rfl
  have e3 : ∀ c : CS, φ c.flushSymbols = φ c := fun c =>
    foldl_frame φ (fun c (p : Nat × List Nat) => c.emit (.output p.2 [(p.1 : Int)])) (fun _ _ => rfl) _ c
  have e4 : ∀ c : CS, φ c.flushHeuristic = φ c := by
    refine fun c => foldl_frame φ heuStep (fun c h => ?_) _ c
    obtain ⟨kh, he⟩ := heuStep_flags c h
    exact Prod.ext (funext kh.hd) (Prod.ext (funext kh.ex) he)
  have e5 : φ c.flushMinimize.flushExternal = φ c.flushMinimize := by
    obtain ⟨rs, e, _⟩ := flushShape_flushMinimize c hm
    rw [e, e2]
  have key : φ c.flush = φ c := by
    rw [flush_eq, e1, e3, e4, e5]
    exact Prod.ext (funext k.hd) (Prod.ext (funext k.ex) (flushMinimize_ext c))
  obtain ⟨k1, k2⟩ := Prod.mk.inj key
  obtain ⟨k2, k3⟩ := Prod.mk.inj k2
  exact ⟨fun b => ⟨congrFun k1 b, congrFun k2 b⟩, k3⟩

theorem XI.flush {c : CS} {t : T} (h : XI c t) : XI c.flush t.next := by
  obtain ⟨hf, _⟩ := flush_flags c h.m
  exact ⟨fun b => (hf b).1.trans (h.h b), rfl, fun b => (hf b).2.trans (h.v b), fun a ha => nomatch ha⟩

theorem XI.endStep {c : CS} {t : T} (h : XI c t) (hf : c.fail = false) : XI (c.apply .endStep) t.next := by
  rw [apply_end _ hf]; exact h.flush.emit _

theorem J.endStep {c : CS} {P defs} (hj : J c P defs) (hm : ∀ a ∈ c.externs, a ∈ domOf c) (hE : c.externs = [] ∨ c.ext = true) :
    J (c.apply .endStep) P defs := by
  have h := (hj.flush hm).emit .endStep rfl
  rw [apply_end _ hj.nofail]
  rcases hE with h0 | h1
  · rwa [extP_nil _ h0, ite_self, List.append_nil] at h
  · rwa [if_pos h1, List.append_nil] at h

theorem endStep_keeps_ext {c : CS} (hf : c.fail = false) (hm : ∀ a ∈ c.externs, a ∈ domOf c) : (c.apply .endStep).ext = c.ext := by
  have emit_ext : ∀ (c : CS) x, (c.emit x).ext = c.ext := fun _ _ => rfl
  rw [apply_end _ hf, emit_ext]; exact (flush_flags c hm).2

/-! ### one step, several steps -/
/-- the calls of an incremental program of several steps -/
def stepsCalls (dss : List (List Call)) : List Call := .initProgram true :: dss.flatMap (fun ds => .beginStep :: (ds ++ [.endStep]))

theorem foldl_steps_eq (dss : List (List Call)) (c : CS) :
    (dss.flatMap (fun ds => Call.beginStep :: (ds ++ [Call.endStep]))).foldl CS.apply c = dss.foldl stepRun c := by
  induction dss generalizing c with
  | nil => rfl
  | cons ds r ih =>
    simp only [List.flatMap_cons, List.foldl_append, List.foldl_cons, List.foldl_nil]
    rw [ih]; rfl

theorem stepRun_steps (c : CS) (ds : List Call) : Steps (abs c) (abs (stepRun c ds)) :=
  ((apply_steps c _).trans (convert_steps _ ds)).trans (apply_steps _ _)

/-- one whole step from any state in which nothing is pending, for a step without external directives (any setting of the extension) or with the
    extension on (any externals: they are passed on, no rule is emitted for them) -/
theorem step_JX {c : CS} {P defs} {t : T} (hj : J c P defs) (hxi : XI c t) (ht : t.regs = []) (ds : List Call) (hx : ∀ d ∈ ds, PlainOk d)
    (hE : extCalls ds = [] ∨ c.ext = true) :
    ∃ defs', J ((ds.foldl CS.apply (c.apply .beginStep)).apply .endStep) (P ++ (rulesOf ds).filter kept) defs' ∧
      XI ((ds.foldl CS.apply (c.apply .beginStep)).apply .endStep) (t.run ds).next := by
  rw [apply_begin _ hj.nofail]
  obtain ⟨defs', h1, x1⟩ := run_JX (hj.emit .beginStep rfl) (hxi.emit _) ds hx
  have e1 := (run_frame (hj.emit .beginStep rfl).nofail ds hx).1
  exact ⟨defs', h1.endStep x1.m (hE.imp (fun h => x1.r.trans ((run_regs_nil ds t h).trans ht)) (e1.trans ·)), x1.endStep h1.nofail⟩

theorem stepRun_ext {c : CS} {P defs} {t : T} (hj : J c P defs) (hxi : XI c t) (ds : List Call) (hx : ∀ d ∈ ds, PlainOk d) : (stepRun c ds).ext = c.ext := by
  unfold stepRun
  rw [apply_begin _ hj.nofail]
  obtain ⟨defs', h1, x1⟩ := run_JX (hj.emit .beginStep rfl) (hxi.emit _) ds hx
  exact (endStep_keeps_ext h1.nofail x1.m).trans (run_frame (hj.emit .beginStep rfl).nofail ds hx).1

theorem convert_steps_eq (ext : Bool) (dss : List (List Call)) :
    convert ext (stepsCalls dss) = dss.foldl stepRun (({ ext := ext } : CS).apply (.initProgram true)) := by
  unfold convert stepsCalls
  rw [List.foldl_cons, foldl_steps_eq]

/-- what every step keeps, given for the calls `src` of the steps so far, holds after any number of steps -/
theorem steps_ind {Q : CS → List Call → Prop} {ok : List Call → Prop}
    (hstep : ∀ c src ds, ok ds → Q c src → Q (stepRun c ds) (src ++ ds)) (dss : List (List Call)) (hok : ∀ ds ∈ dss, ok ds)
    {c : CS} {src : List Call} (h : Q c src) : Q (dss.foldl stepRun c) (src ++ dss.flatten) := by
  induction dss generalizing c src with
  | nil => simpa using h
  | cons ds r ih =>
    have := ih (fun d hd => hok d (List.mem_cons_of_mem _ hd)) (hstep c src ds (hok ds (List.mem_cons_self ..)) h)
    simpa [List.append_assoc] using this

/-- **several steps**: after any number of steps — without external directives, or with the extension on — the rules emitted in ALL steps are
    a translation of the rules given in all steps (`J`), and nothing is pending -/
theorem steps_JX (dss : List (List Call)) (hx : ∀ ds ∈ dss, ∀ d ∈ ds, PlainOk d) {c : CS} {P defs} {t : T} (hj : J c P defs) (hxi : XI c t) (ht : t.regs = [])
    (hE : (∀ ds ∈ dss, extCalls ds = []) ∨ c.ext = true) :
    ∃ defs' t', J (dss.foldl stepRun c) (P ++ (rulesOf dss.flatten).filter kept) defs' ∧ XI (dss.foldl stepRun c) t' ∧ t'.regs = [] := by
  have := steps_ind (ok := fun ds => (∀ d ∈ ds, PlainOk d) ∧ (extCalls ds = [] ∨ c.ext = true))
    (Q := fun c' src => ∃ defs' t', J c' (P ++ (rulesOf src).filter kept) defs' ∧ XI c' t' ∧ t'.regs = [] ∧ c'.ext = c.ext)
    (fun c' src ds ⟨hx1, hE1⟩ ⟨defs', t', hj', hxi', ht', he⟩ => by
      obtain ⟨defs2, h2, x2⟩ := step_JX hj' hxi' ht' ds hx1 (he ▸ hE1)
      exact ⟨defs2, _, by rwa [rulesOf_append, List.filter_append, ← List.append_assoc], x2, rfl, (stepRun_ext hj' hxi' ds hx1).trans he⟩)
    dss (fun ds h => ⟨hx ds h, hE.imp (· ds h) id⟩) (src := []) ⟨defs, t, by rwa [show rulesOf [] = [] from rfl, List.filter_nil, List.append_nil], hxi, ht, rfl⟩
  obtain ⟨defs', t', hj', hxi', ht', _⟩ := this
  exact ⟨defs', t', hj', hxi', ht'⟩

/-! ### the external calls of several steps (extension on) -/
theorem step_extCalls {c : CS} {P defs} {t : T} (hj : J c P defs) (hxi : XI c t) (ds : List Call) (hx : ∀ d ∈ ds, PlainOk d) (he : c.ext = true) :
    (∀ a ∈ (t.run ds).regs, a ∈ domOf (stepRun c ds)) ∧ ∀ m, Agree (stepRun c ds) m →
      extCalls (stepRun c ds).out = extCalls c.out ++ (t.run ds).regs.map (fun a => (m a, (t.run ds).val a)) := by
  unfold stepRun
  rw [apply_begin _ hj.nofail]
  obtain ⟨defs', h1, x1⟩ := run_JX (hj.emit .beginStep rfl) (hxi.emit _) ds hx
  obtain ⟨e1, e2, _⟩ := run_frame (hj.emit .beginStep rfl).nofail ds hx
  have hs := apply_steps (ds.foldl CS.apply (c.emit .beginStep)) .endStep
  refine ⟨fun a ha => dom_mono hs a (x1.m a (x1.r ▸ ha)), fun m hm => ?_⟩
  rw [endStep_extCalls h1 x1 (e1.trans he) (agree_back hs hm), e2, emit_frameX _ _ rfl]

/-- **several steps, extension on**: the external calls of all steps, under one final map; every atom that was pending in some step is mapped at the end -/
theorem steps_extCalls (dss : List (List Call)) (hx : ∀ ds ∈ dss, ∀ d ∈ ds, PlainOk d) {c : CS} {P defs} {t : T} (hj : J c P defs) (hxi : XI c t) (ht : t.regs = [])
    (he : c.ext = true) (m : Nat → Nat) (hm : Agree (dss.foldl stepRun c) m) :
    extCalls (dss.foldl stepRun c).out = extCalls c.out ++ (stepRegs t dss).map (fun p => (m p.1, p.2)) ∧
    ∀ p ∈ stepRegs t dss, p.1 ∈ domOf (dss.foldl stepRun c) := by
  induction dss generalizing c P defs t with
  | nil => exact ⟨(List.append_nil _).symm, List.forall_mem_nil _⟩
  | cons ds r ih =>
    have hx1 : ∀ d ∈ ds, PlainOk d := hx ds (List.mem_cons_self ..)
    obtain ⟨defs1, h1, x1⟩ := step_JX hj hxi ht ds hx1 (Or.inr he)
    -- the later steps only extend the map
    have hs : Steps (abs (stepRun c ds)) (abs (r.foldl stepRun (stepRun c ds))) := foldl_steps stepRun stepRun_steps r _
    obtain ⟨d1, e1⟩ := step_extCalls hj hxi ds hx1 he
    obtain ⟨i1, i2⟩ := ih (fun ds' h' => hx ds' (List.mem_cons_of_mem _ h')) (c := stepRun c ds) h1 x1 rfl ((stepRun_ext hj hxi ds hx1).trans he) hm
    refine ⟨?_, fun p hp => ?_⟩
    · rw [List.foldl_cons, i1, e1 m (agree_back hs hm)]
      simp [stepRegs, List.map_map, Function.comp]
    · rcases List.mem_append.mp hp with h | h
      · obtain ⟨a, ha, rfl⟩ := List.mem_map.mp h
        exact dom_mono hs a (d1 a ha)
      · exact i2 p h

end PotasscoVerif.C02
