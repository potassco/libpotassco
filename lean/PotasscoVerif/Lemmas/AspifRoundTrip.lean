/-
  The writer's side of the aspif round trip (C01): which calls `AspifOutput` may be given (`WFw`), the text it writes for a
  directive (its number, its `fields`, a newline), and what a round trip may change (`norm`).  The reader's side is in
  Lemmas/AspifRoundTrip2.lean, above the grammar.
-/
import PotasscoVerif.Lemmas.Decimal
import PotasscoVerif.Model.AspifIn
namespace PotasscoVerif.AspifRT
open PotasscoVerif PotasscoVerif.AspifOut PotasscoVerif.AspifIn PotasscoVerif.CharStream PotasscoVerif.Decimal
open PotasscoVerif.BufferedStream (isWs isDigit I64MAX)

/-- the continuation after a number: starts with a blank or a newline (or is empty) -/
def Sp (k : List Nat) : Prop := ∀ c r, k = c :: r → c = 32 ∨ c = 10

theorem Sp.nds {k : List Nat} (h : Sp k) : NDS k := by
  intro c r e; rcases h c r e with h | h <;> subst h <;> decide

theorem sp_ws : ∀ c ∈ sp, isWs c = true := by intro c hc; simp [sp] at hc; subst hc; decide
theorem nl_ws : ∀ x ∈ nl, isWs x = true := by intro x hx; simp [nl] at hx; subst hx; decide

theorem sp_blank (l : List Nat) : Sp (32 :: l) := fun _ _ e => .inl (List.cons.inj e).1.symm

theorem sp_nl (k : List Nat) : Sp (nl ++ k) := fun _ _ e => .inr (List.cons.inj e).1.symm
theorem sp_addWLits (l : List (Int × Int)) (k : List Nat) : Sp (addWLits l ++ k) := sp_blank _

theorem addN_eq (n : Nat) : addN n = addI (n : Int) := by rw [addN, addI, printInt_nat]

theorem get_plain (a : AS) (c : Nat) (r : List Nat) (h : a.rest = c :: r) (h0 : c ≠ 0) (h13 : c ≠ 13) (h10 : c ≠ 10) :
    a.get = (c, { rest := r, line := a.line, canUnget := true }) := AS.get_plain h h0 h13 h10

def atomOk (a : Nat) : Prop := 1 ≤ a ∧ a ≤ 2147483647
def litOk (l : Int) : Prop := l ≠ 0 ∧ l.natAbs ≤ 2147483647
def i32 (x : Int) : Prop := -2147483648 ≤ x ∧ x ≤ 2147483647
def lenOk {α : Type} (l : List α) : Prop := l.length ≤ U32MAX

/-- writer-side well-formedness of a call: what `AspifOutput` may be given so that the text is valid aspif -/
def WFw : Call → Prop
  | .rule ht head body => ht ≤ 1 ∧ lenOk head ∧ (∀ a ∈ head, atomOk a) ∧ lenOk body ∧ (∀ l ∈ body, litOk l)
  | .sumRule ht head b ws => ht ≤ 1 ∧ lenOk head ∧ (∀ a ∈ head, atomOk a) ∧ i32 b ∧ lenOk ws ∧ (∀ p ∈ ws, litOk p.1 ∧ 0 ≤ p.2 ∧ p.2 ≤ 2147483647)
  | .minimize p ws => i32 p ∧ lenOk ws ∧ (∀ q ∈ ws, litOk q.1 ∧ i32 q.2)
  | .project atoms => lenOk atoms ∧ ∀ a ∈ atoms, atomOk a
  | .output s c => lenOk s ∧ (∀ x ∈ s, x ≠ 0) ∧ lenOk c ∧ ∀ l ∈ c, litOk l
  | .external a v => atomOk a ∧ v ≤ 3
  | .assume ls => lenOk ls ∧ ∀ l ∈ ls, litOk l
  | .heuristic a t b p c => atomOk a ∧ t ≤ 5 ∧ i32 b ∧ p ≤ 2147483647 ∧ lenOk c ∧ ∀ l ∈ c, litOk l
  | .acycEdge s t c => (0 ≤ s ∧ s ≤ 2147483647) ∧ (0 ≤ t ∧ t ≤ 2147483647) ∧ lenOk c ∧ ∀ l ∈ c, litOk l
  | .theoryNum id n => id ≤ U32MAX ∧ i32 n
  | .theorySym id s => id ≤ U32MAX ∧ lenOk s ∧ ∀ x ∈ s, x ≠ 0
  | .theoryCompound id t args => id ≤ U32MAX ∧ (-3 ≤ t ∧ t ≤ 2147483647) ∧ lenOk args ∧ ∀ x ∈ args, x ≤ U32MAX
  | .theoryElement id ts c => id ≤ U32MAX ∧ lenOk ts ∧ (∀ x ∈ ts, x ≤ U32MAX) ∧ lenOk c ∧ ∀ l ∈ c, litOk l
  | .theoryAtom a t es g => a ≤ U32MAX ∧ t ≤ U32MAX ∧ lenOk es ∧ (∀ x ∈ es, x ≤ U32MAX) ∧ (∀ p, g = some p → p.1 ≤ U32MAX ∧ p.2 ≤ U32MAX)
  | _ => True

/-- the permitted difference of a round trip: literals of weight 0 are not delivered -/
def norm : Call → Call
  | .sumRule ht head b ws => .sumRule ht head b (ws.filter (fun p => p.2 ≠ 0))
  | .minimize p ws => .minimize p (ws.filter (fun p => p.2 ≠ 0))
  | c => c

def fields : Call → List Nat
  | .rule ht head body => addN ht ++ addNats head ++ addI Gen.Body_t_Normal ++ addLits body
  | .sumRule ht head bound body => addN ht ++ addNats head ++ addI Gen.Body_t_Sum ++ addI bound ++ addWLits body
  | .minimize prio lits => addI prio ++ addWLits lits
  | .project atoms => addNats atoms
  | .output name cond => addStr name ++ addLits cond
  | .external a v => addN a ++ addN v
  | .assume lits => addLits lits
  | .heuristic a t bias prio cond => addN t ++ addN a ++ addI bias ++ addN prio ++ addLits cond
  | .acycEdge s t cond => addI s ++ addI t ++ addLits cond
  | .theoryNum id n => addI Gen.Theory_t_Number ++ addN id ++ addI n
  | .theorySym id name => addI Gen.Theory_t_Symbol ++ addN id ++ addStr name
  | .theoryCompound id c args => addI Gen.Theory_t_Compound ++ addN id ++ addI c ++ addNats args
  | .theoryElement id terms cond => addI Gen.Theory_t_Element ++ addN id ++ addNats terms ++ addLits cond
  | .theoryAtom a t elems none => addI Gen.Theory_t_Atom ++ addN a ++ addN t ++ addNats elems
  | .theoryAtom a t elems (some (op, rhs)) => addI Gen.Theory_t_AtomWithGuard ++ addN a ++ addN t ++ addNats elems ++ addN op ++ addN rhs
  | _ => []

def dirCode : Call → Int
  | .rule .. | .sumRule .. => Gen.Directive_t_Rule
  | .minimize .. => Gen.Directive_t_Minimize
  | .project .. => Gen.Directive_t_Project
  | .output .. => Gen.Directive_t_Output
  | .external .. => Gen.Directive_t_External
  | .assume .. => Gen.Directive_t_Assume
  | .heuristic .. => Gen.Directive_t_Heuristic
  | .acycEdge .. => Gen.Directive_t_Edge
  | .theoryNum .. | .theorySym .. | .theoryCompound .. | .theoryElement .. | .theoryAtom .. => Gen.Directive_t_Theory
  | _ => 0

def isDirective : Call → Bool
  | .initProgram _ | .beginStep | .endStep => false
  | _ => true

theorem writeCall_fields (c : Call) (h : isDirective c = true) : writeCall c = dir (dirCode c) ++ fields c ++ nl := by
  cases c with
  | theoryAtom a t es g => rcases g with _ | ⟨op, rhs⟩ <;> (unfold writeCall fields dirCode; simp only [List.append_assoc])
  | initProgram _ => cases h
  | beginStep => cases h
  | endStep => cases h
  | _ => unfold writeCall fields dirCode; simp only [List.append_assoc]

end PotasscoVerif.AspifRT
