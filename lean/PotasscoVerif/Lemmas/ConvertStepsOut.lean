/-
  Several incremental steps of the converter: the OUTPUT side.  The invariants `KO` (every output directive and edge given so far has an emitted output
  directive on an atom that stands for its condition, and conversely) and `MO` (the same for the minimize statements; both Lemmas/ConvertStep.lean) are
  carried from step to step together with `J` and `XI` under ONE table of auxiliary atoms (`step_JXO`, `steps_JXO_MO`).
-/
import PotasscoVerif.Lemmas.ConvertSteps
import PotasscoVerif.Lemmas.ConvertOneStep
namespace PotasscoVerif.C02
open PotasscoVerif PotasscoVerif.Convert PotasscoVerif.Asp

/-- one whole step from a state between two steps: `J`, `XI` and `KO` for the SAME table of auxiliary atoms, and `MO` (steps without heuristic directives;
    without external directives, or with the extension on) -/
theorem step_JXO {c : CS} {P defs} {t : T} {Oall} (hj : J c P defs) (hxi : XI c t) (ht : t.regs = []) (hko : KO c Oall defs)
    (ds : List Call) (hx : ∀ d ∈ ds, PlainOk d) (hnh : ∀ d ∈ ds, isHeu d = false) (hE : extCalls ds = [] ∨ c.ext = true) :
    ∃ defs', J (stepRun c ds) (P ++ (rulesOf ds).filter kept) defs' ∧ XI (stepRun c ds) (t.run ds).next ∧
      KO (stepRun c ds) (Oall ++ srcOuts ds) defs' ∧ ∀ Msrc, MO c Msrc → MO (stepRun c ds) (Msrc ++ minsOf ds) := by
  unfold stepRun
  rw [apply_begin _ hj.nofail]
  obtain ⟨defs', h1, x1, hout⟩ := step_out hj hxi hko ds hx
  have e1 := (run_frame (hj.emit .beginStep rfl).nofail ds hx).1
  exact ⟨defs', h1.endStep x1.m (hE.imp (fun h => x1.r.trans ((run_regs_nil ds t h).trans ht)) (e1.trans ·)), x1.endStep h1.nofail, hout hnh⟩

/-- **several steps, outputs and minimize statements**: `steps_JX` with `KO` and `MO` carried along -/
theorem steps_JXO_MO (dss : List (List Call)) (hx : ∀ ds ∈ dss, ∀ d ∈ ds, PlainOk d) (hnh : ∀ ds ∈ dss, ∀ d ∈ ds, isHeu d = false)
    {c : CS} {P defs} {t : T} {Oall} (hj : J c P defs) (hxi : XI c t) (ht : t.regs = []) (hko : KO c Oall defs)
    (hE : (∀ ds ∈ dss, extCalls ds = []) ∨ c.ext = true) :
    ∃ defs' t', J (dss.foldl stepRun c) (P ++ (rulesOf dss.flatten).filter kept) defs' ∧ XI (dss.foldl stepRun c) t' ∧ t'.regs = [] ∧
      KO (dss.foldl stepRun c) (Oall ++ srcOuts dss.flatten) defs' ∧ ∀ Msrc, MO c Msrc → MO (dss.foldl stepRun c) (Msrc ++ minsOf dss.flatten) := by
  have := steps_ind (ok := fun ds => (∀ d ∈ ds, PlainOk d) ∧ (∀ d ∈ ds, isHeu d = false) ∧ (extCalls ds = [] ∨ c.ext = true))
    (Q := fun c' src => ∃ defs' t', J c' (P ++ (rulesOf src).filter kept) defs' ∧ XI c' t' ∧ t'.regs = [] ∧ KO c' (Oall ++ srcOuts src) defs' ∧
      (∀ Msrc, MO c Msrc → MO c' (Msrc ++ minsOf src)) ∧ c'.ext = c.ext)
    (fun c' src ds ⟨hx1, hn1, hE1⟩ ⟨defs', t', hj', hxi', ht', hko', hmo', he⟩ => by
      obtain ⟨defs2, h2, x2, k2, m2⟩ := step_JXO hj' hxi' ht' hko' ds hx1 hn1 (he ▸ hE1)
      exact ⟨defs2, _, by rwa [rulesOf_append, List.filter_append, ← List.append_assoc], x2, rfl, by rwa [srcOuts_append, ← List.append_assoc],
        fun Msrc h => by rw [minsOf_append, ← List.append_assoc]; exact m2 _ (hmo' Msrc h), (stepRun_ext hj' hxi' ds hx1).trans he⟩)
    dss (fun ds h => ⟨hx ds h, hnh ds h, hE.imp (· ds h) id⟩) (src := [])
    ⟨defs, t, by rwa [show rulesOf [] = [] from rfl, List.filter_nil, List.append_nil], hxi, ht, by rwa [show srcOuts [] = [] from rfl, List.append_nil],
      fun Msrc h => by rwa [show minsOf [] = [] from rfl, List.append_nil], rfl⟩
  obtain ⟨defs', t', hj', hxi', ht', hko', hmo', _⟩ := this
  exact ⟨defs', t', hj', hxi', ht', hko', hmo'⟩

/-- **several steps, output side**: `steps_JX` with `KO` carried along -/
theorem steps_JXO (dss : List (List Call)) (hx : ∀ ds ∈ dss, ∀ d ∈ ds, PlainOk d) (hnh : ∀ ds ∈ dss, ∀ d ∈ ds, isHeu d = false)
    {c : CS} {P defs} {t : T} {Oall} (hj : J c P defs) (hxi : XI c t) (ht : t.regs = []) (hko : KO c Oall defs)
    (hE : (∀ ds ∈ dss, extCalls ds = []) ∨ c.ext = true) :
    ∃ defs' t', J (dss.foldl stepRun c) (P ++ (rulesOf dss.flatten).filter kept) defs' ∧ XI (dss.foldl stepRun c) t' ∧ t'.regs = [] ∧
      KO (dss.foldl stepRun c) (Oall ++ srcOuts dss.flatten) defs' := by
  obtain ⟨defs', t', hj', hxi', ht', hko', _⟩ := steps_JXO_MO dss hx hnh hj hxi ht hko hE
  exact ⟨defs', t', hj', hxi', ht', hko'⟩

/-- **several steps, outputs and minimize statements**: `steps_JXO` with `MO` carried along -/
theorem steps_JXOM (dss : List (List Call)) (hx : ∀ ds ∈ dss, ∀ d ∈ ds, PlainOk d) (hnh : ∀ ds ∈ dss, ∀ d ∈ ds, isHeu d = false)
    {c : CS} {P defs} {t : T} {Oall Msrc} (hj : J c P defs) (hxi : XI c t) (ht : t.regs = []) (hko : KO c Oall defs) (hmo : MO c Msrc)
    (hE : (∀ ds ∈ dss, extCalls ds = []) ∨ c.ext = true) :
    ∃ defs' t', J (dss.foldl stepRun c) (P ++ (rulesOf dss.flatten).filter kept) defs' ∧ XI (dss.foldl stepRun c) t' ∧ t'.regs = [] ∧
      KO (dss.foldl stepRun c) (Oall ++ srcOuts dss.flatten) defs' ∧ MO (dss.foldl stepRun c) (Msrc ++ minsOf dss.flatten) := by
  obtain ⟨defs', t', hj', hxi', ht', hko', hmo'⟩ := steps_JXO_MO dss hx hnh hj hxi ht hko hE
  exact ⟨defs', t', hj', hxi', ht', hko', hmo' Msrc hmo⟩

end PotasscoVerif.C02
