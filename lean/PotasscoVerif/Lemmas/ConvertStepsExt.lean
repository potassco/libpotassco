/-
  What external directives say, apart from the converter: the tracker of Lemmas/ConvertFlags.lean over several steps (`stepRegs`: the externals pending
  at the end of each step), and `extRules_out_steps`: external calls that are the images of such a list denote (`extRules`) the renamed rules of the
  given directives.
-/
import PotasscoVerif.Lemmas.ConvertFlags
import PotasscoVerif.Lemmas.ExtShape
namespace PotasscoVerif.C02
open PotasscoVerif PotasscoVerif.Convert PotasscoVerif.Asp

/-! ### the tracker does not look at its pending list -/
theorem step_regs_indep (t : T) (d : Call) (rs : List Nat) :
    ({ t with regs := rs } : T).step d = { (t.step d) with regs := rs ++ ((({ t with regs := [] } : T).step d).regs) } := by
  have nil : ∀ h v, (⟨h, rs, v⟩ : T) = ⟨h, rs ++ [], v⟩ := fun h v => congrArg (T.mk h · v) (List.append_nil rs).symm
  cases d with
  | external a v =>
    unfold T.step
    dsimp only
    cases t.heads.contains a
    · rfl
    · exact nil _ _
  | _ => exact nil _ _

/-- the tracker after the end of a step: defined atoms and last values stay, nothing is pending -/
def T.next (t : T) : T := { t with regs := [] }

theorem run_regs_nil (ds : List Call) (t : T) (h : extCalls ds = []) : (t.run ds).regs = t.regs := by
  induction ds generalizing t with
  | nil => rfl
  | cons d r ih =>
    rw [extCalls_cons] at h
    obtain ⟨h1, h2⟩ := List.append_eq_nil_iff.mp h
    rcases step_cases t d with ⟨_, e, _⟩ | ⟨a, v, e, _⟩
    · exact (ih (t.step d) h2).trans e
    · rw [e] at h1; cases h1

theorem run_regs_split (ds : List Call) (t : T) : t.run ds = { (t.next.run ds) with regs := t.regs ++ (t.next.run ds).regs } := by
  induction ds generalizing t with
  | nil => simp [T.run, T.next]
  | cons d r ih =>
    have e : t.step d = { (t.next.step d) with regs := t.regs ++ (t.next.step d).regs } := step_regs_indep t.next d t.regs
    show (t.step d).run r = { ((t.next.step d).run r) with regs := t.regs ++ ((t.next.step d).run r).regs }
    rw [ih (t.step d), ih (t.next.step d), e]
    simp [T.next]

/-- the pending externals of each step with their last values, step after step: (atom, value) -/
def stepRegs : T → List (List Call) → List (Nat × Nat)
  | _, [] => []
  | t, ds :: r => ((t.run ds).regs.map (fun a => (a, (t.run ds).val a))) ++ stepRegs (t.run ds).next r

theorem stepRegs_atoms (dss : List (List Call)) (t : T) (ht : t.regs = []) : (stepRegs t dss).map (·.1) = (t.run dss.flatten).regs := by
  induction dss generalizing t with
  | nil => simp [stepRegs, T.run, ht]
  | cons ds r ih =>
    simp only [stepRegs, List.map_append, List.map_map, List.flatten_cons, run_append]
    rw [run_regs_split r.flatten (t.run ds), ih (t.run ds).next rfl]
    exact congrArg (· ++ _) (List.map_id _)

/-! ### the last value per atom -/
def lastOf (L : List (Nat × Nat)) (a : Nat) : Option Nat := (L.reverse.find? (fun p => p.1 == a)).map (·.2)

theorem lastExt_eq (L : List (Nat × Nat)) (a : Nat) : lastExt L a = (lastOf L a).getD 0 := rfl

theorem lastOf_append (A B : List (Nat × Nat)) (a : Nat) : lastOf (A ++ B) a = (lastOf B a).or (lastOf A a) := by
  unfold lastOf
  rw [List.reverse_append, List.find?_append]
  cases B.reverse.find? (fun p => p.1 == a) <;> simp

theorem lastOf_mem (L : List (Nat × Nat)) (a : Nat) : (lastOf L a).isSome = true ↔ a ∈ L.map (·.1) := by
  unfold lastOf
  simp only [Option.isSome_map, List.find?_isSome, List.mem_reverse, List.mem_map]
  constructor
  · rintro ⟨p, hp, e⟩; exact ⟨p, hp, by simpa using e⟩
  · rintro ⟨p, hp, e⟩; exact ⟨p, hp, by simpa using e⟩

theorem lastOf_const (l : List Nat) (v : Nat → Nat) (a : Nat) : lastOf (l.map (fun b => (b, v b))) a = if a ∈ l then some (v a) else none := by
  unfold lastOf
  rw [← List.map_reverse, List.find?_map, Option.map_map]
  cases h : l.reverse.find? ((fun p : Nat × Nat => p.1 == a) ∘ fun b => (b, v b)) with
  | none =>
    have := List.find?_eq_none.mp h
    simp only [List.mem_reverse, Function.comp, beq_iff_eq] at this
    rw [if_neg fun ha => this a ha rfl]; rfl
  | some x =>
    have h1 := List.find?_some h
    have h2 := List.mem_of_find?_eq_some h
    simp at h1 h2; simp [h1 ▸ h2, h1]

theorem run_last (ds : List Call) (t : T) (ht : t.regs = []) (H : List Nat) (hH : ∀ b ∈ (t.run ds).heads, b ∈ H) (a : Nat) (ha : a ∉ H) :
    lastOf ((t.run ds).regs.map (fun b => (b, (t.run ds).val b))) a = lastOf (extCalls ds) a := by
  have hmem : a ∈ (t.run ds).regs ↔ (lastOf (extCalls ds) a).isSome = true := by
    have hp : (!H.contains a) = true := by simpa using ha
    have := congrArg (a ∈ ·) (run_regs ds t H hH)
    simp only [ht, List.filter_nil, List.nil_append, List.mem_filter, hp, and_true] at this
    rw [lastOf_mem]; exact Iff.of_eq this
  rw [lastOf_const, run_val ds t H hH a ha]
  show (if a ∈ (t.run ds).regs then some ((lastOf (extCalls ds) a).getD (t.val a)) else none) = lastOf (extCalls ds) a
  cases h : lastOf (extCalls ds) a <;> simp [hmem, h]

/-- **the last value over all steps**: for an atom no rule of any step defines, the last entry of the per-step pending lists carries the value of the
    last external directive on it over all steps -/
theorem stepRegs_last (dss : List (List Call)) (t : T) (ht : t.regs = []) (H : List Nat) (hH : ∀ b ∈ (t.run dss.flatten).heads, b ∈ H) (a : Nat) (ha : a ∉ H) :
    lastOf (stepRegs t dss) a = lastOf (extCalls dss.flatten) a := by
  induction dss generalizing t with
  | nil => rfl
  | cons ds r ih =>
    rw [List.flatten_cons, run_append] at hH
    have hH1 : ∀ b ∈ (t.run ds).heads, b ∈ H := fun b hb => hH b (by rw [run_heads]; exact List.mem_append_left _ hb)
    have hH2 : ∀ b ∈ ((t.run ds).next.run r.flatten).heads, b ∈ H := fun b hb => hH b (by rw [run_regs_split]; exact hb)
    rw [stepRegs, List.flatten_cons, lastOf_append, ih (t.run ds).next rfl hH2, extCalls_append, lastOf_append, run_last ds t ht H hH1 a ha]

/-! ### what the external calls of all steps say -/
/-- `extRules` as a function of the external directives and the defined atoms -/
def extRulesOf (E : List (Nat × Nat)) (Hs : List Nat) : List Rule :=
  let eff := (E.map (·.1)).filter (fun a => !Hs.contains a)
  let facts := eff.filter (fun a => lastExt E a == 1)
  let free := eff.filter (fun a => lastExt E a == 0)
  facts.map (fun a => ⟨false, [a], .normal []⟩) ++ (if free.isEmpty then [] else [⟨true, free, .normal []⟩])

theorem extRules_eq (cs : List Call) : extRules cs = extRulesOf (extCalls cs) (headsOf cs) := rfl

theorem extRulesOf_shape (E : List (Nat × Nat)) (Hs : List Nat) : extRulesOf E Hs =
    extShape (((E.map (·.1)).filter fun a => !Hs.contains a).filter fun a => lastExt E a == 1)
      (((E.map (·.1)).filter fun a => !Hs.contains a).filter fun a => lastExt E a == 0) := rfl

theorem find?_congr {α : Type} {p q : α → Bool} : ∀ {l : List α}, (∀ x ∈ l, p x = q x) → l.find? p = l.find? q
  | [], _ => rfl
  | x :: l, h => by
    rw [List.find?_cons, List.find?_cons, h x (List.mem_cons_self ..), find?_congr fun y hy => h y (List.mem_cons_of_mem _ hy)]

theorem lastOf_map (L : List (Nat × Nat)) (m : Nat → Nat) (hinj : ∀ p ∈ L, ∀ q ∈ L, m p.1 = m q.1 → p.1 = q.1) (a : Nat) (ha : a ∈ L.map (·.1)) :
    lastOf (L.map (fun p => (m p.1, p.2))) (m a) = lastOf L a := by
  obtain ⟨pa, hpa, rfl⟩ := List.mem_map.mp ha
  unfold lastOf
  rw [← List.map_reverse, List.find?_map, Option.map_map]
  refine congrArg (Option.map (fun p : Nat × Nat => p.2)) (find?_congr fun x hx => ?_)
  rw [Bool.eq_iff_iff]
  simp only [Function.comp, beq_iff_eq]
  exact ⟨hinj x (List.mem_reverse.mp hx) pa hpa, congrArg m⟩

theorem headsOf_image {ctx : Ctx} (ok : ctx.Ok) {P : List Rule} {out : List Call} (tr : Trans ctx P (rulesOf out)) {a : Nat} (had : a ∈ ctx.dom) :
    ctx.m a ∈ headsOf out ↔ ∃ r ∈ P, a ∈ r.head := by
  simp only [headsOf, List.mem_flatMap]
  constructor
  · rintro ⟨r', hr', hin⟩
    have inP : ∀ r ∈ P, ctx.m a ∈ renHead ctx.m r.head → a ∈ r.head := by
      intro r hr hmem
      unfold renHead at hmem
      split at hmem
      · simp at hmem; have := ok.img2 a had; omega
      · obtain ⟨b, hb, e⟩ := List.mem_map.mp hmem
        have := ok.inj b ((tr.inOk r hr).1 b hb) a had e
        rw [← this]; exact hb
    rcases tr.s1 r' hr' with ⟨r, hr, rfl⟩ | ⟨d, hd, rfl⟩ | ⟨r, hr, n, _, rfl⟩
    · exact ⟨r, hr, inP r hr hin⟩
    · simp only [defRule, List.mem_singleton] at hin
      exact absurd hin.symm (ok.imgNoAux a had d hd)
    · exact ⟨r, hr, inP r hr hin⟩
  · rintro ⟨r, hr, hin⟩
    have hmem : ctx.m a ∈ renHead ctx.m r.head := by
      unfold renHead
      rw [if_neg fun h => by rw [List.isEmpty_iff.mp h] at hin; cases hin]
      exact List.mem_map_of_mem hin
    rcases tr.s2 r hr with ⟨_, h0⟩ | h | ⟨n, _, h⟩
    · rw [h0] at hin; cases hin
    · exact ⟨_, h, hmem⟩
    · exact ⟨_, h, hmem⟩

/-- the emitted external calls of all steps denote the renamed rules of the external directives of all steps -/
theorem extRules_out_steps (ctx : Ctx) (ok : ctx.Ok) (P : List Rule) (out : List Call) (tr : Trans ctx P (rulesOf out))
    (L srcE : List (Nat × Nat)) (Hs : List Nat)
    (hdom : ∀ p ∈ L, p.1 ∈ ctx.dom)
    (hE : extCalls out = L.map (fun p => (ctx.m p.1, p.2)))
    (hhd : ∀ p ∈ L, Hs.contains p.1 = true ↔ ∃ r ∈ P, p.1 ∈ r.head)
    (hatoms : (L.map (·.1)).filter (fun a => !Hs.contains a) = (srcE.map (·.1)).filter (fun a => !Hs.contains a))
    (hlast : ∀ a, a ∈ L.map (·.1) → Hs.contains a = false → lastOf L a = lastOf srcE a) :
    extRules out = (extRulesOf srcE Hs).map (renRule ctx.m) := by
  have hheads : ∀ p ∈ L, (headsOf out).contains (ctx.m p.1) = Hs.contains p.1 := by
    intro p hp
    rw [Bool.eq_iff_iff, hhd p hp, List.contains_iff_mem]
    exact headsOf_image ok tr (hdom p hp)
  have hinj : ∀ p ∈ L, ∀ q ∈ L, ctx.m p.1 = ctx.m q.1 → p.1 = q.1 := fun p hp q hq e => ok.inj p.1 (hdom p hp) q.1 (hdom q hq) e
  have hlastE : ∀ a ∈ L.map (·.1), lastExt (extCalls out) (ctx.m a) = lastExt L a := by
    intro a ha
    rw [lastExt_eq, lastExt_eq, hE, lastOf_map L ctx.m hinj a ha]
  have e1 : (extCalls out).map (·.1) = (L.map (·.1)).map ctx.m := by rw [hE]; simp [List.map_map, Function.comp]
  have key : ∀ v : Nat, (((extCalls out).map (·.1)).filter (fun n => !(headsOf out).contains n)).filter (fun n => lastExt (extCalls out) n == v)
      = (((srcE.map (·.1)).filter (fun a => !Hs.contains a)).filter (fun a => lastExt srcE a == v)).map ctx.m := by
    intro v
    rw [e1, List.filter_map, List.filter_map, List.filter_filter]
    refine congrArg (List.map ctx.m) ?_
    have step1 : (L.map (·.1)).filter (fun a => ((fun n => lastExt (extCalls out) n == v) ∘ ctx.m) a && ((fun n => !(headsOf out).contains n) ∘ ctx.m) a)
        = ((L.map (·.1)).filter (fun a => !Hs.contains a)).filter (fun a => lastExt L a == v) := by
      rw [List.filter_filter]
      apply List.filter_congr
      intro a ha
      obtain ⟨p, hp, rfl⟩ := List.mem_map.mp ha
      simp only [Function.comp, hheads p hp, hlastE p.1 ha]
    rw [step1, hatoms]
    apply List.filter_congr
    intro a ha
    have ha' : a ∈ (L.map (·.1)).filter (fun a => !Hs.contains a) := by rw [hatoms]; exact ha
    obtain ⟨h1, h2⟩ := List.mem_filter.mp ha'
    have h2' : Hs.contains a = false := by simpa using h2
    rw [lastExt_eq, lastExt_eq, hlast a h1 h2']
  rw [extRules_shape, key 1, key 0, extRulesOf_shape, extShape_ren]

end PotasscoVerif.C02
