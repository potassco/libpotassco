/-
  The consumer contract of the readers (C04): the automaton over the delivered calls and the admissible arguments; `rounds_good`: a step loop
  made of rounds `stepsRound` keeps the contract if its steps deliver admissible directives; and `Post p Q`, "whatever the parser `p` returns
  satisfies `Q`", with one rule per way the reader models build parsers (`>>=`, `pure`, `if`, `rep`, `counted`).  The rules are stated so that
  they unify with the `do` blocks of the models.
-/
import PotasscoVerif.Model.AspifIn
namespace PotasscoVerif.C04
open PotasscoVerif PotasscoVerif.CharStream
open PotasscoVerif.AspifIn (P Result)

def atomOk (a : Nat) : Prop := 1 ≤ a ∧ a ≤ 2147483647
def litOk (l : Int) : Prop := l ≠ 0 ∧ l.natAbs ≤ 2147483647
def i32 (x : Int) : Prop := -2147483648 ≤ x ∧ x ≤ 2147483647

theorem atomOk.pos {x : Nat} (h : atomOk x) : litOk (x : Int) := by unfold litOk atomOk at *; omega
theorem atomOk.neg {x : Nat} (h : atomOk x) : litOk (-(x : Int)) := by unfold litOk atomOk at *; omega

theorem i32_natCast {n : Nat} (h : n ≤ 2147483647) : i32 (n : Int) := by unfold i32; omega

/-- argument ranges of a call -/
def WF : Call → Prop
  | .rule ht head body => ht ≤ 1 ∧ (∀ a ∈ head, atomOk a) ∧ (∀ l ∈ body, litOk l)
  | .sumRule ht head b ws => ht ≤ 1 ∧ (∀ a ∈ head, atomOk a) ∧ i32 b ∧ (∀ p ∈ ws, litOk p.1 ∧ 0 ≤ p.2 ∧ i32 p.2)
  | .minimize _ ws => ∀ q ∈ ws, litOk q.1 ∧ i32 q.2
  | .project atoms => ∀ a ∈ atoms, atomOk a
  | .output _ c => ∀ l ∈ c, litOk l
  | .external a v => atomOk a ∧ v ≤ 3
  | .assume ls => ∀ l ∈ ls, litOk l
  | .heuristic a t b _ c => atomOk a ∧ t ≤ 5 ∧ i32 b ∧ (∀ l ∈ c, litOk l)
  | .acycEdge _ _ c => ∀ l ∈ c, litOk l
  | .theoryNum _ n => i32 n
  | .theoryCompound _ t _ => -3 ≤ t ∧ t ≤ 2147483647
  | .theoryElement _ _ c => ∀ l ∈ c, litOk l
  | _ => True

def isDir : Call → Bool
  | .initProgram _ | .beginStep | .endStep => false
  | _ => true

/-- the call-structure automaton: 0 nothing yet, 1 between steps, 2 inside a step; `none` = contract broken -/
def next : Nat → Call → Option Nat
  | 0, .initProgram _ => some 1
  | 1, .beginStep => some 2
  | 2, .endStep => some 1
  | 2, c => if isDir c then some 2 else none
  | _, _ => none

def run : Nat → List Call → Option Nat
  | s, [] => some s
  | s, c :: r => match next s c with | some s' => run s' r | none => none

/-- what every reader guarantees about the calls it has delivered -/
def Good (calls : List Call) : Prop := (∃ st, run 0 calls = some st) ∧ ∀ c ∈ calls, WF c

theorem run_append (s : Nat) (l1 l2 : List Call) : run s (l1 ++ l2) = (run s l1).bind (fun s' => run s' l2) := by
  induction l1 generalizing s with
  | nil => rfl
  | cons c r ih =>
    simp only [List.cons_append, run]
    cases next s c with
    | none => rfl
    | some s' => exact ih s'

theorem run_dirs (l : List Call) (h : ∀ c ∈ l, isDir c = true) : run 2 l = some 2 := by
  induction l with
  | nil => rfl
  | cons c r ih =>
    have hc : next 2 c = some 2 := by
      have := h c (List.mem_cons_self ..)
      cases c <;> first | rfl | cases this
    simp only [run, hc]
    exact ih (fun x hx => h x (List.mem_cons_of_mem _ hx))

theorem Good.nil : Good [] := ⟨⟨0, rfl⟩, List.forall_mem_nil _⟩

/-- Taking an `if` off by this rule is unification only; `split` simplifies the whole goal at every call, which is slow to check on the long
    cascades (and under the `let`s) of the reader models. -/
theorem ite_ind {α : Sort _} {Q : α → Prop} (c : Prop) [Decidable c] {x y : α} (hx : c → Q x) (hy : ¬c → Q y) : Q (if c then x else y) := by
  split
  · exact hx ‹_›
  · exact hy ‹_›

theorem ite_cases {α : Sort _} {c : Prop} [Decidable c] {x y z : α} (h : (if c then x else y) = z) : c ∧ x = z ∨ ¬c ∧ y = z :=
  ite_ind (Q := fun r => r = z → _) c (fun hc h => .inl ⟨hc, h⟩) (fun hc h => .inr ⟨hc, h⟩) h

theorem bind_ok {ε α β : Type} (x : Except ε α) (f : α → Except ε β) (r : β) : (x >>= f) = .ok r ↔ ∃ a, x = .ok a ∧ f a = .ok r := by
  cases x <;> simp [bind, Except.bind]
theorem guard_ok {ε α : Type} {c : Prop} [Decidable c] {e : ε} {y : Except ε α} {r : α} (h : (if c then .error e else y) = .ok r) : ¬c ∧ y = .ok r := by
  split at h
  · cases h
  · exact ⟨‹_›, h⟩

theorem forall_mem_snoc {α : Type} {Q : α → Prop} {l : List α} {x : α} (hl : ∀ y ∈ l, Q y) (hx : Q x) : ∀ y ∈ l ++ [x], Q y :=
  List.forall_mem_append.mpr ⟨hl, List.forall_mem_singleton.mpr hx⟩

/-- an admissible directive: what a reader may deliver inside a step -/
def DirOk (c : Call) : Prop := WF c ∧ isDir c = true

def OptOk : Option Call → Prop
  | some c => DirOk c
  | none => True

theorem OptOk.cons {oc : Option Call} {acc : List Call} (h : OptOk oc) (hacc : ∀ c ∈ acc, DirOk c) :
    ∀ c ∈ (match oc with | some c => c :: acc | none => acc), DirOk c := by
  cases oc with
  | none => exact hacc
  | some c0 => exact List.forall_mem_cons.mpr ⟨h, hacc⟩

/-- `r` is what a step loop returns: the calls of the step, and how it ended -/
def StepOk (r : List Call × Except Nat AS) : Prop := ∀ c ∈ r.1, DirOk c

theorem StepOk.rev {acc : List Call} {r : Except Nat AS} (h : ∀ c ∈ acc, DirOk c) : StepOk (acc.reverse, r) :=
  fun c hc => h c (List.mem_reverse.mp hc)

def Between (calls : List Call) : Prop := run 0 calls = some 1 ∧ ∀ c ∈ calls, WF c

theorem Between.good {l : List Call} (h : Between l) : Good l := ⟨⟨1, h.1⟩, h.2⟩

theorem Between.init (inc : Bool) : Between [.initProgram inc] := ⟨rfl, List.forall_mem_singleton.mpr trivial⟩

theorem Between.run_open {acc cs : List Call} (h : Between acc) (hcs : ∀ c ∈ cs, DirOk c) : run 0 (acc ++ [.beginStep] ++ cs) = some 2 := by
  rw [List.append_assoc, run_append, h.1]
  exact run_dirs cs (fun c hc => (hcs c hc).2)

/-- a step broken off by an error: the automaton stays inside the step -/
theorem Between.open {acc cs : List Call} (h : Between acc) (hcs : ∀ c ∈ cs, DirOk c) : Good (acc ++ [.beginStep] ++ cs) := by
  refine ⟨⟨2, h.run_open hcs⟩, ?_⟩
  simp only [List.forall_mem_append, List.forall_mem_singleton]
  exact ⟨⟨h.2, trivial⟩, fun c hc => (hcs c hc).1⟩

theorem Between.step {acc cs : List Call} (h : Between acc) (hcs : ∀ c ∈ cs, DirOk c) : Between (acc ++ [.beginStep] ++ cs ++ [.endStep]) :=
  ⟨by rw [run_append, h.run_open hcs]; rfl, forall_mem_snoc (h.open hcs).2 trivial⟩

/-- One round of a reader's step loop (`parse(Complete)`): the step delivered `r.1` and ended as `r.2`; then `more()`, and stop, fail on extra
    input or go on with `k`. -/
def stepsRound (r : List Call × Except Nat AS) (inc : Bool) (k : AS → List Call → Result) (acc : List Call) : Result :=
  match r.2 with
  | .error l => { calls := acc ++ [.beginStep] ++ r.1, err := some l }
  | .ok a1 =>
    if (AspifIn.more a1).1 && !inc then { calls := acc ++ [.beginStep] ++ r.1 ++ [.endStep], err := some (AspifIn.more a1).2.line }
    else if (AspifIn.more a1).1 then k (AspifIn.more a1).2 (acc ++ [.beginStep] ++ r.1 ++ [.endStep])
    else { calls := acc ++ [.beginStep] ++ r.1 ++ [.endStep], err := none }

/-- `σ` is what the loop carries besides the stream and the calls (the tables of the smodels reader), `body` one step. -/
theorem rounds_good {σ : Type} {I : σ → Prop} {inc : Bool} {steps : Nat → σ → AS → List Call → Result} {body : σ → AS → σ × List Call × Except Nat AS}
    (h0 : ∀ s a acc, (steps 0 s a acc).calls = acc)
    (hs : ∀ f s a acc, steps (f + 1) s a acc = stepsRound (body s a).2 inc (steps f (body s a).1) acc)
    (hb : ∀ s a, I s → I (body s a).1 ∧ StepOk (body s a).2) :
    ∀ f s a acc, I s → Between acc → Good (steps f s a acc).calls := by
  intro f
  induction f with
  | zero => intro s a acc _ h; rw [h0]; exact h.good
  | succ f ih =>
    intro s a acc hi h
    have ⟨hi', hcs⟩ := hb s a hi
    have h' := h.step hcs
    rw [hs]
    unfold stepsRound
    split
    · exact h.open hcs
    · exact ite_ind (Q := fun r : Result => Good r.calls) _ (fun _ => h'.good) fun _ =>
        ite_ind (Q := fun r : Result => Good r.calls) _ (fun _ => ih _ _ _ hi' h') fun _ => h'.good

def Post {α : Type} (p : P α) (Q : α → Prop) : Prop := ∀ a x a', p a = .ok (x, a') → Q x

section rules
variable {α : Type} {p q : P α} {Q : α → Prop}

theorem Post.bind {β : Type} {g : α × AS → Except Nat (β × AS)} {R : β → Prop} (hp : Post p Q) (hg : ∀ x, Q x → Post (fun a' => g (x, a')) R) : Post (fun a => p a >>= g) R := by
  intro a y a' h
  obtain ⟨⟨x, a1⟩, h1, h2⟩ := (bind_ok _ _ _).mp h
  exact hg x (hp a x a1 h1) a1 y a' h2

theorem Post.ok {x : α} {f : AS → AS} (h : Q x) : Post (fun a => (.ok (x, f a) : Except Nat (α × AS))) Q := by
  intro a y a' e; cases e; exact h

theorem Post.error {e : AS → Nat} : Post (fun a => (.error (e a) : Except Nat (α × AS))) Q := by
  intro a y a' h; cases h

theorem Post.ite (c : Prop) [Decidable c] (hp : c → Post p Q) (hq : ¬c → Post q Q) :
    Post (fun a => if c then p a else q a) Q :=
  fun a y a' => ite_ind (Q := fun r => r = Except.ok (y, a') → Q y) c (fun hc => hp hc a y a') (fun hc => hq hc a y a')

/-- an `if` that looks at the stream -/
theorem Post.iteS {c : AS → Prop} [∀ a, Decidable (c a)] (hp : Post p Q) (hq : Post q Q) :
    Post (fun a => if c a then p a else q a) Q :=
  fun a y a' => ite_ind (Q := fun r => r = Except.ok (y, a') → Q y) (c a) (fun _ => hp a y a') (fun _ => hq a y a')

theorem Post.comap (hp : Post p Q) (f : AS → AS) : Post (fun a => p (f a)) Q := fun a => hp (f a)

/-- a field whose value the contract does not restrict -/
theorem Post.skip {β : Type} {g : α × AS → Except Nat (β × AS)} {R : β → Prop} (hg : ∀ x, Post (fun a' => g (x, a')) R) : Post (fun a => p a >>= g) R :=
  Post.bind (Q := fun _ => True) (fun _ _ _ _ => trivial) (fun x _ => hg x)

theorem Post.rep (hp : Post p Q) :
    ∀ (n : Nat) (acc : List α), (∀ x ∈ acc, Q x) → Post (AspifIn.rep p n acc) (fun l => ∀ x ∈ l, Q x) := by
  intro n
  induction n with
  | zero => intro acc hacc; exact Post.ok (fun x hx => hacc x (List.mem_reverse.mp hx))
  | succ n ih =>
    intro acc hacc
    exact Post.bind hp (fun x hx => ih (x :: acc) (List.forall_mem_cons.mpr ⟨hx, hacc⟩))

theorem Post.rep0 (hp : Post p Q) (n : Nat) : Post (AspifIn.rep p n []) (fun l => ∀ x ∈ l, Q x) :=
  Post.rep hp n [] (List.forall_mem_nil _)

theorem Post.counted (hp : Post p Q) : Post (AspifIn.counted p) (fun l => ∀ x ∈ l, Q x) :=
  Post.skip (fun n => Post.rep0 hp n)
end rules

section fields
open PotasscoVerif.AspifIn

theorem intIn_post (lo hi : Int) : Post (intIn lo hi) (fun v => lo ≤ v ∧ v ≤ hi) := by
  intro a v a' h
  unfold intIn at h
  split at h
  · split at h
    · cases h; assumption
    · cases h
  · cases h

theorem posMax_post (m : Nat) : Post (posMax m) (· ≤ m) :=
  Post.bind (intIn_post 0 m) (fun v hv => Post.ok (by omega))

theorem atom_post : Post atom atomOk :=
  Post.bind (intIn_post Gen.atomMin Gen.atomMax) (fun v hv => Post.ok (by simp only [Gen.atomMin, Gen.atomMax] at hv; unfold atomOk; omega))

theorem lit_post : Post lit litOk := by
  intro a v a' h
  unfold lit at h
  split at h
  · split at h
    · rename_i hr; cases h
      simp only [Gen.atomMax] at hr
      unfold litOk; omega
    · cases h
  · cases h

theorem wlit_post (minW : Int) (hm : I32MIN ≤ minW) : Post (wlit minW) (fun v => litOk v.1 ∧ minW ≤ v.2 ∧ i32 v.2) :=
  Post.bind lit_post (fun _ hl => Post.bind (intIn_post minW I32MAX) (fun _ hw => Post.ok ⟨hl, hw.1, Int.le_trans hm hw.1, hw.2⟩))

theorem atoms_post : Post atoms (fun l => ∀ x ∈ l, atomOk x) := Post.counted atom_post
theorem lits_post : Post lits (fun l => ∀ x ∈ l, litOk x) := Post.counted lit_post
theorem wlits_post (minW : Int) (hm : I32MIN ≤ minW) : Post (wlits minW) (fun l => ∀ x ∈ l, litOk x.1 ∧ minW ≤ x.2 ∧ i32 x.2) :=
  Post.bind (Post.counted (wlit_post minW hm)) (fun _ hl => Post.ok (fun x hx => hl x (List.mem_filter.mp hx).1))

end fields
end PotasscoVerif.C04
