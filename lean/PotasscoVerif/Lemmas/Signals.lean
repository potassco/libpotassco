/-
  Invariants of the signal machine: the block-count accounting `Acc` (both variants of the code) and the uniqueness
  of carriers `Lin` (repaired code), each checked once against every atomic step.
-/
import PotasscoVerif.Model.Signals
namespace PotasscoVerif.Signals

/-- The atomic steps as a relation, one constructor per branch of `step`: an invariant is checked against each
    line of the code by `cases`, and `step` is unfolded once, in `step_trans`. -/
inductive Trans (p : Bool) (s : St) : St → Prop
  | arrive (sig : Nat) (hm : ¬(sig = 0 ∨ masked sig s.stack = true)) :
      Trans p s { s with stack := .ps sig s.nextId .inc true :: s.stack, nextId := s.nextId + 1 }
  | work {m} (hst : s.stack = []) (hm : s.main = .work :: m) : Trans p s { s with main := m }
  | block {m} (hst : s.stack = []) (hm : s.main = .block :: m) :
      Trans p s { s with main := m, blocked := s.blocked + 1, appDepth := s.appDepth + 1 }
  | unblock {d m} (hst : s.stack = []) (hm : s.main = .unblock d :: m) (hd : ¬s.appDepth = 0) :
      Trans p s { s with main := m, stack := [.ub d .dec (0, 0)] }
  | inc {sig id intr rest} (hst : s.stack = .ps sig id .inc intr :: rest) :
      Trans p s { s with blocked := s.blocked + 1, log := s.log ++ [.arrive sig id s.blocked],
                         stack := .ps sig id (if s.blocked = 0 then .callStart else .checkPending) intr :: rest }
  | callStart {sig id intr rest} (hst : s.stack = .ps sig id .callStart intr :: rest) :
      Trans p s { s with log := s.log ++ [.callStart sig id], stack := .ps sig id .inCall intr :: rest }
  | callEndT {sig id intr rest} (hst : s.stack = .ps sig id .inCall intr :: rest) :
      Trans p s { s with log := s.log ++ [.callEnd sig id true], stack := .ps sig id .dec intr :: rest }
  | callEndF {sig id intr rest} (hst : s.stack = .ps sig id .inCall intr :: rest) :
      Trans p s { s with log := s.log ++ [.callEnd sig id false], stack := rest, stuck := s.stuck + 1 }
  | checkPending {sig id intr rest} (hst : s.stack = .ps sig id .checkPending intr :: rest) :
      Trans p s { s with stack := (if s.pending.1 = 0 then .ps sig id .setPending intr else .ps sig id .dec intr) :: rest }
  | setPending {sig id intr rest} (hst : s.stack = .ps sig id .setPending intr :: rest) :
      Trans p s { s with pending := (sig, id), log := s.log ++ [.queued sig id], stack := .ps sig id .dec intr :: rest }
  | psDec {sig id intr rest} (hst : s.stack = .ps sig id .dec intr :: rest) :
      Trans p s { s with blocked := s.blocked - 1, stack := rest }
  | ubDec {d pend rest} (hst : s.stack = .ub d .dec pend :: rest) :
      Trans p s { s with blocked := s.blocked - 1, appDepth := s.appDepth - 1,
                         stack := if s.blocked = 1 then .ub d .xchg pend :: rest else rest }
  | read {d pend rest} (hst : s.stack = .ub d .xchg pend :: rest) (hp : p = true) :
      Trans p s { s with stack := .ub d .clear s.pending :: rest }
  | xchg {d pend rest} (hst : s.stack = .ub d .xchg pend :: rest) (hp : p = false) :
      Trans p s { s with pending := (0, 0), log := s.log ++ (if s.pending.1 ≠ 0 then [.taken s.pending.1 s.pending.2 d] else []),
                         stack := if s.pending.1 ≠ 0 ∧ d then .ub d .deliver s.pending :: rest else rest }
  | clear {d pend rest} (hst : s.stack = .ub d .clear pend :: rest) :
      Trans p s { s with pending := (0, 0), log := s.log ++ (if pend.1 ≠ 0 then [.taken pend.1 pend.2 d] else []),
                         stack := if pend.1 ≠ 0 ∧ d then .ub d .deliver pend :: rest else rest }
  | deliver {d pend rest} (hst : s.stack = .ub d .deliver pend :: rest) :
      Trans p s { s with stack := .ps pend.1 pend.2 .inc false :: rest }

theorem step_trans {p : Bool} {s s' : St} {c : Choice} (hs : step p s c = some s') : Trans p s s' := by
  cases c with
  | arrive sig =>
    rw [step] at hs
    split at hs
    · cases hs
    · exact Option.some.inj hs ▸ .arrive sig ‹_›
  | step r =>
    rw [step] at hs
    split at hs
    · split at hs
      · cases hs
      · exact Option.some.inj hs ▸ .work ‹_› ‹_›
      · exact Option.some.inj hs ▸ .block ‹_› ‹_›
      · split at hs
        · cases hs
        · exact Option.some.inj hs ▸ .unblock ‹_› ‹_› ‹_›
    · rename_i pc _ _ hst
      cases pc
      · exact Option.some.inj hs ▸ .inc hst
      · exact Option.some.inj hs ▸ .callStart hst
      · cases r
        · exact Option.some.inj hs ▸ .callEndF hst
        · exact Option.some.inj hs ▸ .callEndT hst
      · exact Option.some.inj hs ▸ .checkPending hst
      · exact Option.some.inj hs ▸ .setPending hst
      · exact Option.some.inj hs ▸ .psDec hst
    · rename_i pc _ _ hst
      cases pc
      · exact Option.some.inj hs ▸ .ubDec hst
      · cases p
        · exact Option.some.inj hs ▸ .xchg hst rfl
        · exact Option.some.inj hs ▸ .read hst rfl
      · exact Option.some.inj hs ▸ .clear hst
      · exact Option.some.inj hs ▸ .deliver hst

theorem run_inv {p : Bool} {P : St → Prop} (hP : ∀ {s s'}, P s → Trans p s s' → P s') :
    ∀ (cs : List Choice) (s : St), P s → P (run p s cs)
  | [], _, h => h
  | c :: cs, s, h => by
    rw [run]
    cases hst : step p s c with
    | none => exact run_inv hP cs s h
    | some s' => exact run_inv hP cs s' (hP h (step_trans hst))

/-- what a frame has added to `blocked_` and not yet taken back. -/
def contrib : Frame → Nat
  | .ps _ _ pc _ => if pc = .inc then 0 else 1
  | .ub _ _ _ => 0

def contribs (l : List Frame) : Nat := (l.map contrib).sum

/-- an `unblockSignals` call that has not yet decremented. -/
def ubDec : Frame → Nat
  | .ub _ .dec _ => 1
  | _ => 0

def ubDecs (l : List Frame) : Nat := (l.map ubDec).sum

/-- `decs` is what makes the decrement of `appDepth` by `unblockSignals` exact. -/
structure Acc (s : St) : Prop where
  count : s.blocked = s.appDepth + s.stuck + contribs s.stack
  decs  : ubDecs s.stack ≤ s.appDepth

theorem contribs_inc (sig id intr l) : contribs (.ps sig id .inc intr :: l) = contribs l := Nat.zero_add _
theorem contribs_ps {pc} (h : pc ≠ .inc) (sig id intr l) : contribs (.ps sig id pc intr :: l) = contribs l + 1 := by
  show (if pc = .inc then 0 else 1) + contribs l = _; rw [if_neg h, Nat.add_comm]
theorem contribs_ub (d pc q l) : contribs (.ub d pc q :: l) = contribs l := Nat.zero_add _
theorem ubDecs_ps (sig id pc intr l) : ubDecs (.ps sig id pc intr :: l) = ubDecs l := Nat.zero_add _
theorem ubDecs_dec (d q l) : ubDecs (.ub d .dec q :: l) = ubDecs l + 1 := Nat.add_comm _ _
theorem ubDecs_ub {pc} (h : pc ≠ .dec) (d q l) : ubDecs (.ub d pc q :: l) = ubDecs l := by
  cases pc <;> first | exact absurd rfl h | exact Nat.zero_add _

theorem contribs_ub_if (c : Prop) [Decidable c] (d pc q l) : contribs (if c then .ub d pc q :: l else l) = contribs l := by
  split
  · exact contribs_ub ..
  · rfl
theorem ubDecs_ub_if (c : Prop) [Decidable c] {pc} (h : pc ≠ .dec) (d q l) :
    ubDecs (if c then .ub d pc q :: l else l) = ubDecs l := by
  split
  · exact ubDecs_ub h d q l
  · rfl

theorem Acc.mk' {b a k : Nat} {st : List Frame} {q m n lg} (hc : b = a + k + contribs st) (hd : ubDecs st ≤ a) :
    Acc ⟨b, q, st, m, n, a, k, lg⟩ := ⟨hc, hd⟩

theorem trans_acc {p : Bool} {s s' : St} (h : Acc s) (ht : Trans p s s') : Acc s' := by
  obtain ⟨hc, hd⟩ := h
  cases ht with
  | arrive => exact .mk' (by rw [contribs_inc]; exact hc) (by rw [ubDecs_ps]; exact hd)
  | work => exact ⟨hc, hd⟩
  | block => exact .mk' (by rw [hc, Nat.add_right_comm s.appDepth 1, Nat.add_right_comm _ 1]) (Nat.le_succ_of_le hd)
  | unblock hst _ ha => rw [hst] at hc; exact .mk' hc (Nat.pos_of_ne_zero ha)
  -- the top frame is replaced by one of the same weight
  | callStart hst | callEndT hst | setPending hst | read hst | deliver hst => rw [hst] at hc hd; exact ⟨hc, hd⟩
  | checkPending hst => rw [hst] at hc hd; refine .mk' ?_ ?_ <;> split <;> assumption
  | xchg hst | clear hst =>
    rw [hst, contribs_ub] at hc; rw [hst, ubDecs_ub (by decide)] at hd
    exact .mk' (by rw [contribs_ub_if]; exact hc) (by rw [ubDecs_ub_if _ (by decide)]; exact hd)
  | inc hst =>
    rw [hst, contribs_inc] at hc; rw [hst, ubDecs_ps] at hd
    exact .mk' (by rw [contribs_ps (by split <;> decide), hc]; rfl) (by rw [ubDecs_ps]; exact hd)
  | callEndF hst =>
    rw [hst, contribs_ps (by decide)] at hc; rw [hst, ubDecs_ps] at hd
    exact .mk' (by rw [hc, ← Nat.add_assoc s.appDepth, Nat.add_right_comm _ 1]; rfl) hd
  | psDec hst =>
    rw [hst, contribs_ps (by decide)] at hc; rw [hst, ubDecs_ps] at hd
    exact .mk' (Nat.sub_eq_of_eq_add hc) hd
  | ubDec hst =>
    rw [hst, contribs_ub] at hc; rw [hst, ubDecs_dec] at hd
    have ha : 1 ≤ s.appDepth := Nat.le_trans (Nat.le_add_left 1 _) hd
    refine .mk' ?_ ?_
    · rw [contribs_ub_if, hc, Nat.add_assoc, Nat.add_assoc, Nat.sub_add_comm ha]
    · rw [ubDecs_ub_if _ (by decide)]; exact Nat.le_sub_one_of_lt hd

theorem acc_init (main : List MainOp) : Acc (St.init main) := ⟨rfl, Nat.le_refl _⟩

/-- arrival ids a frame still carries towards a callback or the pending slot. -/
def active : Frame → List Nat
  | .ps _ id pc _ => if pc = .inc ∨ pc = .callStart ∨ pc = .checkPending ∨ pc = .setPending then [id] else []
  | .ub _ pc pend => if pc = .deliver then [pend.2] else []

def carriers (s : St) : List Nat :=
  s.stack.flatMap active ++ (if s.pending.1 ≠ 0 then [s.pending.2] else [])

def calledIds : List Ev → List Nat
  | [] => []
  | .callStart _ id :: r => id :: calledIds r
  | _ :: r => calledIds r

theorem calledIds_append (l1 l2 : List Ev) : calledIds (l1 ++ l2) = calledIds l1 ++ calledIds l2 := by
  induction l1 with
  | nil => rfl
  | cons e l ih => cases e <;> simp only [calledIds, List.cons_append, ih]

theorem calledIds_snoc (l : List Ev) {e : Ev} (h : calledIds [e] = []) : calledIds (l ++ [e]) = calledIds l := by
  rw [calledIds_append, h, List.append_nil]

structure Lin (s : St) : Prop where
  nodup   : (carriers s).Nodup
  fresh   : ∀ id ∈ carriers s, id < s.nextId
  called  : ∀ id ∈ calledIds s.log, id ∉ carriers s ∧ id < s.nextId
  once    : (calledIds s.log).Nodup
  noClear : ∀ d pend, Frame.ub d .clear pend ∉ s.stack

theorem lin_init (main : List MainOp) : Lin (St.init main) :=
  ⟨.nil, fun _ h => absurd h List.not_mem_nil, fun _ h => absurd h List.not_mem_nil, .nil, fun _ _ => List.not_mem_nil⟩

/-- the two-step read/clear of the original code (`pc = clear`) does not occur in the repaired code. -/
abbrev NoClear (l : List Frame) : Prop := ∀ d pend, Frame.ub d .clear pend ∉ l

theorem NoClear.cons {f : Frame} {l : List Frame} (hf : ∀ d q, f ≠ .ub d .clear q) (h : NoClear l) : NoClear (f :: l) :=
  fun d q hm => (List.mem_cons.mp hm).elim (fun e => hf d q e.symm) (h d q)

theorem NoClear.tail {f : Frame} {l : List Frame} (h : NoClear (f :: l)) : NoClear l :=
  fun d q hm => h d q (List.mem_cons_of_mem _ hm)

theorem NoClear.ps {sig id pc intr} {l : List Frame} (h : NoClear l) : NoClear (.ps sig id pc intr :: l) :=
  h.cons fun _ _ => Frame.noConfusion

theorem trans_noClear {s s' : St} (h : NoClear s.stack) (ht : Trans false s s') : NoClear s'.stack := by
  cases ht with
  | arrive => exact h.ps
  | work | block => exact h
  | unblock => exact NoClear.cons (fun _ _ e => nomatch e) (fun _ _ => List.not_mem_nil)
  | inc hst | callStart hst | callEndT hst | setPending hst | deliver hst => rw [hst] at h; exact h.tail.ps
  | callEndF hst | psDec hst => rw [hst] at h; exact h.tail
  | checkPending hst => rw [hst] at h; show NoClear ((if _ then _ else _) :: _); split <;> exact h.tail.ps
  | ubDec hst | xchg hst =>
    rw [hst] at h; show NoClear (if _ then _ else _); split
    · exact h.tail.cons fun _ _ e => nomatch e
    · exact h.tail
  | read _ hp => cases hp
  | clear hst => rw [hst] at h; exact absurd List.mem_cons_self (h _ _)

def car (st : List Frame) (q : Nat × Nat) : List Nat := st.flatMap active ++ (if q.1 ≠ 0 then [q.2] else [])

theorem car_cons (f : Frame) (st q) : car (f :: st) q = active f ++ car st q := by
  simp only [car, List.flatMap_cons, List.append_assoc]

/-- `Lin` without the state: `C` the carriers, `N` the next id, `K` the ids handed to the callback so far.  The steps of the
    machine act on these in three ways only: an arrival (`push`), the entry into the callback (`call`), and carriers
    moved or dropped with no callback logged (`shrink`). -/
structure LinOn (C : List Nat) (N : Nat) (K : List Nat) : Prop where
  nodup  : C.Nodup
  fresh  : ∀ id ∈ C, id < N
  called : ∀ id ∈ K, id ∉ C ∧ id < N
  once   : K.Nodup

theorem Lin.on {s : St} (h : Lin s) : LinOn (carriers s) s.nextId (calledIds s.log) := ⟨h.nodup, h.fresh, h.called, h.once⟩

theorem LinOn.lin {C K : List Nat} {st : List Frame} {q lg b m n a k} (h : LinOn C n K) (hC : car st q = C) (hK : calledIds lg = K)
    (hnc : NoClear st) : Lin ⟨b, q, st, m, n, a, k, lg⟩ := by
  subst hC hK; exact ⟨h.nodup, h.fresh, h.called, h.once, hnc⟩

theorem LinOn.push {C K : List Nat} {N : Nat} (h : LinOn C N K) : LinOn (N :: C) (N + 1) K := by
  refine ⟨List.nodup_cons.mpr ⟨fun hi => Nat.lt_irrefl _ (h.fresh _ hi), h.nodup⟩, fun id hi => ?_, fun id hi => ?_, h.once⟩
  · rcases List.mem_cons.mp hi with e | e
    · exact e ▸ Nat.lt_succ_self _
    · exact Nat.lt_succ_of_lt (h.fresh id e)
  · have hc := h.called id hi
    refine ⟨fun hm => ?_, Nat.lt_succ_of_lt hc.2⟩
    rcases List.mem_cons.mp hm with e | e
    · exact Nat.lt_irrefl _ (e ▸ hc.2)
    · exact hc.1 e

theorem LinOn.call {C K : List Nat} {N id : Nat} (h : LinOn (id :: C) N K) : LinOn C N (K ++ [id]) := by
  have hnd := List.nodup_cons.mp h.nodup
  refine ⟨hnd.2, fun x hx => h.fresh x (List.mem_cons_of_mem _ hx), fun x hx => ?_, ?_⟩
  · rcases List.mem_append.mp hx with hx | hx
    · exact ⟨fun hc => (h.called x hx).1 (List.mem_cons_of_mem _ hc), (h.called x hx).2⟩
    · rw [List.mem_singleton.mp hx]; exact ⟨hnd.1, h.fresh id List.mem_cons_self⟩
  · refine List.nodup_append.mpr ⟨h.once, List.pairwise_singleton _ _, fun a ha b hb e => ?_⟩
    rw [List.mem_singleton.mp hb] at e
    exact (h.called id (e ▸ ha)).1 List.mem_cons_self

theorem LinOn.shrink {C C' K : List Nat} {N : Nat} (h : LinOn C N K) (hc : ∃ l, C'.Perm l ∧ l.Sublist C) : LinOn C' N K := by
  obtain ⟨l, hp, hsub⟩ := hc
  have hmem : ∀ id, id ∈ C' → id ∈ C := fun id hi => hsub.subset (hp.mem_iff.mp hi)
  exact ⟨hp.nodup_iff.mpr (h.nodup.sublist hsub), fun id hi => h.fresh id (hmem id hi),
    fun id hi => ⟨fun hc' => (h.called id hi).1 (hmem id hc'), (h.called id hi).2⟩, h.once⟩

theorem lin_shrink {s : St} (h : Lin s) {st st' : List Frame} {q' lg' b m a k} (hst : s.stack = st)
    (hc : ∃ l, (car st' q').Perm l ∧ l.Sublist (car st s.pending)) (hl : calledIds lg' = calledIds s.log)
    (hnc : NoClear st') : Lin ⟨b, q', st', m, s.nextId, a, k, lg'⟩ := by
  subst hst; exact (h.on.shrink hc).lin rfl hl hnc

theorem sub_top {f f' : Frame} (st q) (h : (active f').Sublist (active f)) :
    ∃ l, (car (f' :: st) q).Perm l ∧ l.Sublist (car (f :: st) q) :=
  ⟨_, .refl _, by rw [car_cons, car_cons]; exact h.append_right _⟩

theorem sub_pop (f : Frame) (st q) : ∃ l, (car st q).Perm l ∧ l.Sublist (car (f :: st) q) :=
  ⟨_, .refl _, by rw [car_cons]; exact List.sublist_append_right ..⟩

theorem trans_lin {s s' : St} (h : Lin s) (ht : Trans false s s') : Lin s' := by
  have hnc := trans_noClear h.noClear ht
  cases ht with
  | arrive => exact h.on.push.lin rfl rfl hnc
  | @callStart sig id intr rest hst =>
    have hcs : carriers s = id :: car rest s.pending := by rw [carriers, hst]; exact car_cons ..
    exact (hcs ▸ h.on).call.lin rfl (calledIds_append ..) hnc
  | work | block => exact lin_shrink h rfl ⟨_, .refl _, .refl _⟩ rfl hnc
  | unblock hst => exact lin_shrink h hst ⟨_, .refl _, .refl _⟩ rfl hnc
  | inc hst =>
    refine lin_shrink h hst (sub_top _ _ ?_) (calledIds_snoc _ rfl) hnc
    split <;> exact .refl _
  | callEndT hst => exact lin_shrink h hst (sub_top _ _ (.refl _)) (calledIds_snoc _ rfl) hnc
  | callEndF hst => exact lin_shrink h hst (sub_pop ..) (calledIds_snoc _ rfl) hnc
  | checkPending hst =>
    refine lin_shrink h hst ?_ rfl hnc
    split
    · exact sub_top _ _ (.refl _)
    · exact sub_top _ _ (List.nil_sublist _)
  | @setPending sig id intr rest hst =>
    refine lin_shrink h hst ⟨(if sig ≠ 0 then [id] else []) ++ rest.flatMap active, List.perm_append_comm, ?_⟩
      (calledIds_snoc _ rfl) hnc
    refine List.Sublist.append (l₂ := [id]) ?_ (List.sublist_append_left ..)
    split
    · exact .refl _
    · exact List.nil_sublist _
  | psDec hst => exact lin_shrink h hst (sub_pop ..) rfl hnc
  | ubDec hst =>
    refine lin_shrink h hst ?_ rfl hnc
    split
    · exact sub_top _ _ (.refl _)
    · exact sub_pop ..
  | read _ hp => cases hp
  | @xchg d _ rest hst =>
    by_cases hq : s.pending.1 ≠ 0 ∧ d = true
    · refine lin_shrink h hst ⟨rest.flatMap active ++ [s.pending.2], ?_, ?_⟩ ?_ hnc
      · rw [if_pos hq]; show ([s.pending.2] ++ (rest.flatMap active ++ [])).Perm _
        rw [List.append_nil]; exact List.perm_append_comm
      · rw [car_cons, car, if_pos hq.1]; exact .refl _
      · rw [if_pos hq.1]; exact calledIds_snoc _ rfl
    · refine lin_shrink h hst ⟨_, .refl _, ?_⟩ ?_ hnc
      · rw [if_neg hq]; exact List.Sublist.append_left (List.nil_sublist _) _
      · split
        · exact calledIds_snoc _ rfl
        · rw [List.append_nil]
  | clear hst => exact absurd (hst ▸ List.mem_cons_self) (h.noClear _ _)
  | deliver hst => exact lin_shrink h hst (sub_top _ _ (.refl _)) rfl hnc

end PotasscoVerif.Signals
