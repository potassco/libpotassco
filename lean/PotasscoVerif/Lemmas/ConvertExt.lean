/-
  The converter with the clasp extension switched on: externals are not compiled away but passed on at the end of the step
  (`SmodelsConvert::flushExternal`, `ext_` branch) as `external(image, value)` calls (`endStep_extCalls`).  What the emitted program says about
  them (Spec/AspCalls.lean `extRules`, read off the emitted calls) is the renaming of what the given program says (`extRules_out`, `trans_extRules`).
-/
import PotasscoVerif.Lemmas.ConvertStep
import PotasscoVerif.Lemmas.ConvertStepsExt
namespace PotasscoVerif.C02
open PotasscoVerif PotasscoVerif.Convert PotasscoVerif.Asp

/-! ### the external calls in the emitted step -/
theorem emit_frameX (c : CS) (x : Call) (hx : extOf x = none) : extCalls (c.emit x).out = extCalls c.out := by
  simp [CS.emit, extCalls, hx]

theorem flushMinimize_frameX (c : CS) : extCalls c.flushMinimize.out = extCalls c.out := flushMinimize_view c extOf fun _ _ => rfl

theorem heuStep_frameX (c : CS) (h : Convert.Heu) : extCalls (heuStep c h).out = extCalls c.out := by
  rcases heuStep_cases c h with e | ⟨_, _, e⟩ | ⟨_, _, _, _, e⟩ <;> rw [e] <;> exact emit_frameX _ _ rfl

theorem flushSymbols_frameX (c : CS) : extCalls c.flushSymbols.out = extCalls c.out :=
  foldl_frame (fun c => extCalls c.out) _ (fun _ _ => emit_frameX _ _ rfl) _ c

theorem extCalls_externals (l : List Nat) (f g : Nat → Nat) : extCalls (l.map (fun a => Call.external (f a) (g a))) = l.map (fun a => (f a, g a)) := by
  induction l with
  | nil => rfl
  | cons a r ih => simp only [List.map_cons, extCalls, List.filterMap_cons, extOf] at ih ⊢; rw [ih]

theorem flush_extCalls_app (c : CS) (he : c.ext = true) (hm : ∀ a ∈ c.externs, a ∈ domOf c) :
    extCalls (c.flush.emit .endStep).out = extCalls c.out ++ c.externs.map (fun a => (sm c.flushMinimize a, ex c a)) := by
  have k := keepsX_flushMinimize c
  rw [emit_frameX _ _ rfl]
  show extCalls ((c.flushMinimize.flushExternal.flushHeuristic.flushSymbols).emit (.assume [-1])).out = _
  rw [emit_frameX _ _ rfl, flushSymbols_frameX, flushHeuristic_eq, foldl_frame (fun c => extCalls c.out) heuStep heuStep_frameX,
    flushExternal_specT _ ((flushMinimize_ext c).trans he) (fun a ha => dom_find _ a (flushMinimize_dom c hm a ha))]
  simp only [extCalls_append, flushMinimize_frameX, extCallsT, k.externs]
  rw [extCalls_externals]
  exact congrArg _ (List.map_congr_left fun a _ => by rw [k.ex])

theorem sm_stable {c c' : CS} (hs : Steps (abs c) (abs c')) (hi : Inv (abs c)) {a : Nat} (ha : a ∈ domOf c) : sm c' a = sm c a := by
  have hi' := steps_inv' hs hi
  rw [sm_agree c' _ (agree_final c' hi') a (dom_mono hs a ha), sm_agree c _ (agree_back hs (agree_final c' hi')) a ha]

theorem endStep_extCalls {c : CS} {P defs} {t : T} (hj : J c P defs) (hxi : XI c t) (he : c.ext = true) {m : Nat → Nat} (hm : Agree c m) :
    extCalls (c.apply .endStep).out = extCalls c.out ++ t.regs.map (fun a => (m a, t.val a)) := by
  rw [apply_end _ hj.nofail, flush_extCalls_app _ he hxi.m, hxi.r]
  congr 1
  apply List.map_congr_left
  intro a ha
  have hd := hxi.m a (hxi.r ▸ ha)
  rw [sm_stable (flushMinimize_steps c) hj.inv hd, sm_agree c m hm a hd, hxi.v a]

/-! ### what the emitted externals say is the renaming of what the given externals say -/
/-- the rules a list of pending externals stands for, given which atoms are defined (`hdf`) and the last value of each (`exf`) -/
def extPOf (externs : List Nat) (hdf : Nat → Bool) (exf : Nat → Nat) : List Rule :=
  (externs.filter (fun a => !hdf a && exf a == 1)).map (fun a => (⟨false, [a], .normal []⟩ : Rule)) ++
  (if (externs.filter (fun a => !hdf a && exf a == 0)).isEmpty then [] else [(⟨true, externs.filter (fun a => !hdf a && exf a == 0), .normal []⟩ : Rule)])

theorem extP_eq (c : CS) : extP c = extPOf c.externs (hd c) (ex c) := rfl

/-- **the emitted externals denote the renamed rules of the given ones**: for a step whose emitted calls contain the external calls
    `E = externs.map (image, value)`, whose rules are a translation of the given rules (`Trans`), and in which the head flag says
    which atoms some given rule defines -/
theorem extRules_out (ctx : Ctx) (ok : ctx.Ok) (P : List Rule) (out : List Call) (tr : Trans ctx P (rulesOf out))
    (externs : List Nat) (hdom : ∀ a ∈ externs, a ∈ ctx.dom) (hdf : Nat → Bool) (exf : Nat → Nat)
    (hE : extCalls out = externs.map (fun a => (ctx.m a, exf a)))
    (hhd : ∀ a ∈ externs, hdf a = true ↔ ∃ r ∈ P, a ∈ r.head) :
    extRules out = (extPOf externs hdf exf).map (renRule ctx.m) := by
  -- `extRules_out_steps` for the list in which every pending atom carries its one value; `externs.filter hdf`: the pending atoms that are defined
  have hL : ∀ p ∈ externs.map (fun a => (a, exf a)), p.1 ∈ externs := fun p hp => by
    obtain ⟨a, ha, rfl⟩ := List.mem_map.mp hp; exact ha
  have hc : ∀ a ∈ externs, (externs.filter hdf).contains a = hdf a := fun a ha => by
    rw [Bool.eq_iff_iff, List.contains_iff_mem, List.mem_filter]; exact ⟨And.right, fun h => ⟨ha, h⟩⟩
  have e1 : (externs.map fun a => (a, exf a)).map (·.1) = externs := by rw [List.map_map]; exact List.map_id _
  have key : ∀ v : Nat, (((externs.map fun a => (a, exf a)).map (·.1)).filter fun a => !(externs.filter hdf).contains a).filter
      (fun a => lastExt (externs.map fun a => (a, exf a)) a == v) = externs.filter fun a => !hdf a && exf a == v := by
    intro v
    rw [e1, List.filter_filter]
    refine List.filter_congr fun a ha => ?_
    rw [hc a ha, lastExt_eq, lastOf_const, if_pos ha]
    exact Bool.and_comm _ _
  rw [extRules_out_steps ctx ok P out tr (externs.map fun a => (a, exf a)) _ (externs.filter hdf) (fun p hp => hdom _ (hL p hp))
    (by rw [hE, List.map_map]; rfl) (fun p hp => by rw [hc _ (hL p hp)]; exact hhd _ (hL p hp)) rfl fun _ _ _ => rfl]
  simp only [extRulesOf, extPOf, key 1, key 0]

theorem Trans.append_ren {ctx : Ctx} {P P' : List Rule} (tr : Trans ctx P P') (Q : List Rule)
    (hQ : ∀ r ∈ Q, (∀ a ∈ r.head, a ∈ ctx.dom) ∧ (∀ a ∈ r.body.atoms, a ∈ ctx.dom) ∧ r.body.Ok) :
    Trans ctx (P ++ Q) (P' ++ Q.map (renRule ctx.m)) := by
  refine ⟨?_, ?_, ?_, ?_⟩
  · intro r hr
    rcases List.mem_append.mp hr with h | h
    · exact tr.inOk r h
    · exact hQ r h
  · intro r' hr'
    rcases List.mem_append.mp hr' with h | h
    · rcases tr.s1 r' h with ⟨r, hr, e⟩ | ⟨d, hd, e⟩ | ⟨r, hr, n, hn, e⟩
      · exact Or.inl ⟨r, List.mem_append_left _ hr, e⟩
      · exact Or.inr (Or.inl ⟨d, hd, e⟩)
      · exact Or.inr (Or.inr ⟨r, List.mem_append_left _ hr, n, hn, e⟩)
    · obtain ⟨r, hr, e⟩ := List.mem_map.mp h
      exact Or.inl ⟨r, List.mem_append_right _ hr, e.symm⟩
  · intro r hr
    rcases List.mem_append.mp hr with h | h
    · rcases tr.s2 r h with h1 | h1 | ⟨n, hn, h1⟩
      · exact Or.inl h1
      · exact Or.inr (Or.inl (List.mem_append_left _ h1))
      · exact Or.inr (Or.inr ⟨n, hn, List.mem_append_left _ h1⟩)
    · exact Or.inr (Or.inl (List.mem_append_right _ (List.mem_map_of_mem h)))
  · intro d hd
    exact List.mem_append_left _ (tr.s3 d hd)

theorem headsOf_mem (ds : List Call) (a : Nat) : a ∈ headsOf ds ↔ ∃ r ∈ (rulesOf ds).filter kept, a ∈ r.head := by
  simp only [headsOf, List.mem_flatMap, List.mem_filter]
  constructor
  · rintro ⟨r, hr, ha⟩
    refine ⟨r, ⟨hr, ?_⟩, ha⟩
    unfold kept
    cases hh : r.head with
    | nil => rw [hh] at ha; cases ha
    | cons x xs => simp
  · rintro ⟨r, ⟨hr, _⟩, ha⟩; exact ⟨r, hr, ha⟩

/-- `L` carries, for the atoms no rule defines, the directives of `src` with their last values: with the externals read on both sides, the
    emitted program translates the given one -/
theorem trans_extRules {c : CS} {defs} {src : List Call} (hj : J c ((rulesOf src).filter kept) defs) {L : List (Nat × Nat)}
    (hE : extCalls c.out = L.map (fun p => (finalMap c p.1, p.2))) (hdom : ∀ p ∈ L, p.1 ∈ domOf c)
    (hatoms : (L.map (·.1)).filter (fun a => !(headsOf src).contains a) = ((extCalls src).map (·.1)).filter (fun a => !(headsOf src).contains a))
    (hlast : ∀ a, a ∈ L.map (·.1) → (headsOf src).contains a = false → lastOf L a = lastOf (extCalls src) a) :
    Trans (ctxOf c defs) ((rulesOf src).filter kept ++ extRules src) (progOf c.out) := by
  have tr := ctx_trans hj
  have hout := extRules_out_steps (ctxOf c defs) (ctx_ok hj) _ _ tr L (extCalls src) (headsOf src) hdom hE
    (fun p _ => by rw [List.contains_iff_mem]; exact headsOf_mem src p.1) hatoms hlast
  unfold progOf
  rw [hout]
  refine Trans.append_ren tr (extRules src) fun r hr => ?_
  obtain ⟨hb, hh⟩ := mem_extShape (extRules_shape src ▸ hr)
  refine ⟨fun a ha => ?_, by rw [hb]; exact List.forall_mem_nil _, by rw [hb]; exact List.forall_mem_nil _⟩
  have hm : a ∈ ((extCalls src).map (·.1)).filter (fun a => !(headsOf src).contains a) := (hh a ha).elim (fun h => (List.mem_filter.mp h).1) fun h => (List.mem_filter.mp h).1
  obtain ⟨p, hp, rfl⟩ := List.mem_map.mp (List.mem_filter.mp (hatoms ▸ hm)).1
  exact hdom p hp

end PotasscoVerif.C02
