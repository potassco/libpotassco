/-
  C11: the relation `R` under which the memory-block model of the rule builder refines the list specification, and the facts
  about the block (`Mem`) that the operations need.  The operations themselves: Lemmas/RuleBuilder2.lean.
-/
import PotasscoVerif.Model.RuleBuilder
import PotasscoVerif.Spec.RuleSpec
namespace PotasscoVerif.RuleBuilder
open PotasscoVerif.RuleSpec

theorem HDR_pos : 0 < HDR := by decide

theorem words_length (m : Mem) (b e : Nat) (h1 : HDR ≤ b) (h3 : e ≤ m.size) :
    (m.words b e).length = e - b := by
  unfold Mem.words
  rw [List.length_drop, List.length_take, Nat.min_eq_left (Nat.sub_le_iff_le_add'.mpr h3),
    Nat.sub_sub_sub_cancel_right h1]

theorem words_self (m : Mem) (b : Nat) : m.words b b = [] :=
  List.drop_eq_nil_of_le (List.length_take_le _ _)

def SameBelow (m m' : Mem) (top : Nat) : Prop := m'.data.take (top - HDR) = m.data.take (top - HDR)

theorem SameBelow.words {m m' : Mem} {top : Nat} (h : SameBelow m m' top) (b : Nat) {e : Nat} (he : e ≤ top) :
    m'.words b e = m.words b e := by
  unfold Mem.words
  rw [← Nat.min_eq_left (Nat.sub_le_sub_right he HDR), ← List.take_take, ← List.take_take, h]

theorem SameBelow.rd {m m' : Mem} {top : Nat} (h : SameBelow m m' top) {i : Nat} (h0 : HDR ≤ i) (hi : i < top) :
    m'.rd i = m.rd i := by
  have hlt : i - HDR < top - HDR := Nat.sub_lt_sub_right h0 hi
  unfold Mem.rd
  rw [List.getD_eq_getElem?_getD, List.getD_eq_getElem?_getD, ← List.getElem?_take_of_lt hlt, h,
    List.getElem?_take_of_lt hlt]

theorem SameBelow.trans {m m' m'' : Mem} {top top' : Nat} (h : SameBelow m m' top) (h' : SameBelow m' m'' top')
    (ht : top ≤ top') : SameBelow m m'' top := by
  unfold SameBelow at *
  rw [← Nat.min_eq_left (Nat.sub_le_sub_right ht HDR), ← List.take_take, h', List.take_take,
    Nat.min_eq_left (Nat.sub_le_sub_right ht HDR), h]

structure Patch (m m' : Mem) (x y : Nat) : Prop where
  viol : m'.viol = false
  size : m'.size = m.size
  lo : m'.data.take (x - HDR) = m.data.take (x - HDR)
  hi : m'.data.drop (y - HDR) = m.data.drop (y - HDR)

theorem Patch.words {m m' : Mem} {x y : Nat} (p : Patch m m' x y) {b e : Nat} (ho : e ≤ x ∨ y ≤ b) :
    m'.words b e = m.words b e := by
  rcases ho with ho | ho
  · exact SameBelow.words p.lo b ho
  · unfold Mem.words
    rw [List.drop_take, List.drop_take, ← Nat.add_sub_cancel' (Nat.sub_le_sub_right ho HDR), ← List.drop_drop,
      ← List.drop_drop, p.hi]

theorem patch_wr (m : Mem) (i : Nat) (v : Int) (hi : HDR ≤ i) (hlt : i < m.size) (hv : m.viol = false) :
    Patch m (m.wr i v) i (i + 1) ∧ (m.wr i v).rd i = v := by
  obtain ⟨k, rfl⟩ := Nat.exists_eq_add_of_le hi
  have hk : k < m.data.length := Nat.lt_of_add_lt_add_left hlt
  refine ⟨⟨?_, ?_, ?_, ?_⟩, ?_⟩
  · simp only [Mem.wr, Mem.inRange, hv, hi, hlt, decide_true, Bool.and_self, Bool.not_true, Bool.or_self]
  · simp only [Mem.wr, Mem.size, List.length_set]
  · exact List.take_set_of_le (Nat.le_refl _)
  · simp only [Mem.wr, Nat.add_assoc, Nat.add_sub_cancel_left]; exact List.drop_set_of_lt (Nat.lt_succ_self _)
  · simp only [Mem.wr, Mem.rd, Nat.add_sub_cancel_left, List.getD_eq_getElem?_getD, List.getElem?_set_self hk,
      Option.getD_some]

theorem wr_at (m : Mem) (k : Nat) (v : Int) (hk : k < m.data.length) (hv : m.viol = false) :
    (m.wr (HDR + k) v).data = m.data.set k v ∧ (m.wr (HDR + k) v).viol = false := by
  obtain ⟨p, -⟩ := patch_wr m (HDR + k) v (Nat.le_add_right _ _) (Nat.add_lt_add_left hk HDR) hv
  exact ⟨by unfold Mem.wr; rw [Nat.add_sub_cancel_left], p.viol⟩

theorem take_set_succ {α} (l : List α) (k : Nat) (v : α) (h : k < l.length) : (l.set k v).take (k + 1) = l.take k ++ [v] := by
  rw [List.take_add_one, List.take_set_of_le (Nat.le_refl k), List.getElem?_set_self h]
  rfl

theorem grow_spec (m : Mem) (k : Nat) (hk : k ≤ m.data.length) :
    (m.grow (HDR + k + 1)).data.take k = m.data.take k ∧ k < (m.grow (HDR + k + 1)).data.length ∧
      (m.grow (HDR + k + 1)).viol = m.viol := by
  unfold Mem.grow Mem.size
  split
  · refine ⟨List.take_append_of_le_length hk, ?_, rfl⟩
    rw [List.length_append, List.length_replicate, Nat.add_assoc, Nat.add_sub_add_left]
    exact Nat.sub_le_iff_le_add'.mp (Nat.le_refl _)
  · next hn => exact ⟨rfl, Nat.lt_of_add_lt_add_left (Nat.lt_of_not_le fun hle => hn (Nat.lt_succ_of_le hle)), rfl⟩

structure Push (m m' : Mem) (top : Nat) (v : Int) : Prop where
  viol : m'.viol = false
  size : top + 1 ≤ m'.size
  below : SameBelow m m' top
  words : ∀ b, b ≤ top → m'.words b (top + 1) = m.words b top ++ [v]
  rd : m'.rd top = v

theorem pushAt_spec (m : Mem) (top : Nat) (v : Int) (h1 : HDR ≤ top) (h2 : top ≤ m.size) (hv : m.viol = false) :
    Push m (m.pushAt top v) top v := by
  obtain ⟨k, rfl⟩ := Nat.exists_eq_add_of_le h1
  have hk : k ≤ m.data.length := Nat.le_of_add_le_add_left h2
  have hl : (m.data.take k).length = k := List.length_take_of_le hk
  -- `pushAt` tests `top + 1 > size` and so does `grow`
  have hp : m.pushAt (HDR + k) v = (m.grow (HDR + k + 1)).wr (HDR + k) v := by
    unfold Mem.pushAt Mem.grow
    by_cases hc : HDR + k + 1 > m.size
    · rw [if_pos hc, if_pos hc]
    · rw [if_neg hc, if_neg hc]
  obtain ⟨ht, hlt, hgv⟩ := grow_spec m k hk
  obtain ⟨ed, hv'⟩ := wr_at _ k v hlt (hgv.trans hv)
  rw [← hp] at ed hv'
  have e : (m.pushAt (HDR + k) v).data.take (k + 1) = m.data.take k ++ [v] := by rw [ed, take_set_succ _ _ _ hlt, ht]
  have hsz : HDR + k + 1 ≤ (m.pushAt (HDR + k) v).size := by
    unfold Mem.size
    rw [ed, List.length_set]
    exact Nat.add_lt_add_left hlt HDR
  generalize m.pushAt (HDR + k) v = m' at e hsz hv'
  refine ⟨hv', hsz, ?_, fun b hb => ?_, ?_⟩
  · have e' := congrArg (List.take k) e
    rw [List.take_take, Nat.min_eq_left (Nat.le_succ k), List.take_left' hl] at e'
    unfold SameBelow
    rwa [Nat.add_sub_cancel_left]
  · unfold Mem.words
    rw [Nat.add_assoc, Nat.add_sub_cancel_left, Nat.add_sub_cancel_left, e,
      List.drop_append_of_le_length (Nat.le_trans (Nat.sub_le_iff_le_add'.mpr hb) (Nat.le_of_eq hl.symm))]
  · unfold Mem.rd
    rw [Nat.add_sub_cancel_left, List.getD_eq_getElem?_getD, ← List.getElem?_take_of_lt (Nat.lt_succ_self k), e,
      List.getElem?_append_right (Nat.le_of_eq hl), hl, Nat.sub_self]
    rfl

/-! A part `M` of the block that starts at word `x` is described by `m.data = A ++ M ++ B` with `x = HDR + A.length`: the two
loops of `weaken` then rewrite a list, and `patch_of_split` turns the result into a `Patch`. -/

theorem data_split (m : Mem) (b e : Nat) (hb : HDR ≤ b) (hbe : b ≤ e) (he : e ≤ m.size) :
    m.data = m.data.take (b - HDR) ++ m.words b e ++ m.data.drop (e - HDR) ∧ b = HDR + (m.data.take (b - HDR)).length := by
  have hle : b - HDR ≤ e - HDR := Nat.sub_le_sub_right hbe HDR
  refine ⟨?_, ?_⟩
  · have e1 : m.data.take (b - HDR) = (m.data.take (e - HDR)).take (b - HDR) := by
      rw [List.take_take, Nat.min_eq_left hle]
    unfold Mem.words
    rw [e1, List.take_append_drop, List.take_append_drop]
  · rw [List.length_take_of_le (Nat.le_trans hle (Nat.sub_le_iff_le_add'.mpr he)), Nat.add_sub_cancel' hb]

theorem rd_split_low (m : Mem) (A M B : List Int) (x i : Nat) (hd : m.data = A ++ M ++ B) (hA : A.length = x - HDR) (hi : i < x) (h0 : HDR ≤ i) :
    m.rd i = A.getD (i - HDR) 0 := by
  unfold Mem.rd
  rw [hd, List.append_assoc]
  simp only [List.getD_eq_getElem?_getD]
  rw [List.getElem?_append_left (by rw [hA]; exact Nat.sub_lt_sub_right h0 hi)]

theorem patch_of_split {m m' : Mem} {A M M' B : List Int} (hd : m.data = A ++ M ++ B) (hd' : m'.data = A ++ M' ++ B)
    (hl : M'.length = M.length) (hv : m'.viol = false) :
    Patch m m' (HDR + A.length) (HDR + A.length + M.length) ∧
      m'.words (HDR + A.length) (HDR + A.length + M.length) = M' := by
  refine ⟨⟨hv, ?_, ?_, ?_⟩, ?_⟩
  · unfold Mem.size
    simp only [hd, hd', List.length_append, hl]
  · rw [hd, hd', List.append_assoc, List.append_assoc, Nat.add_sub_cancel_left, List.take_left' rfl, List.take_left' rfl]
  · rw [hd, hd', Nat.add_assoc, Nat.add_sub_cancel_left, List.drop_left' List.length_append,
      List.drop_left' (List.length_append.trans (congrArg _ hl))]
  · unfold Mem.words
    rw [hd', ← hl, Nat.add_assoc, Nat.add_sub_cancel_left, Nat.add_sub_cancel_left, List.take_left' List.length_append,
      List.drop_left' rfl]

theorem wrSeq1_split : ∀ (vs old A B : List Int) (m : Mem), m.data = A ++ old ++ B → old.length = vs.length →
    m.viol = false → (m.wrSeq (HDR + A.length) 1 vs).data = A ++ vs ++ B ∧ (m.wrSeq (HDR + A.length) 1 vs).viol = false := by
  intro vs
  induction vs with
  | nil =>
    intro old A B m hd hl hv
    rw [List.eq_nil_of_length_eq_zero hl] at hd
    exact ⟨hd, hv⟩
  | cons v vs ih =>
    intro old A B m hd hl hv
    cases old with
    | nil => cases hl
    | cons o os =>
      have hd0 : m.data = A ++ o :: (os ++ B) := by rw [hd, List.append_assoc]; rfl
      obtain ⟨e1, v1⟩ := wr_at m A.length v (by rw [hd0, List.length_append]; exact Nat.lt_add_of_pos_right (Nat.succ_pos _)) hv
      have hset : (m.wr (HDR + A.length) v).data = (A ++ [v]) ++ os ++ B := by
        rw [e1, hd0, List.set_append_right _ _ (Nat.le_refl _), Nat.sub_self, List.set_cons_zero]
        simp only [List.append_assoc, List.cons_append, List.nil_append]
      have := ih os (A ++ [v]) B _ hset (Nat.succ.inj hl) v1
      rw [List.length_append, List.length_singleton, ← Nat.add_assoc] at this
      simpa only [Mem.wrSeq, List.append_assoc, List.cons_append, List.nil_append] using this

def flat (l : List (Int × Int)) : List Int := l.flatMap (fun p => [p.1, p.2])

theorem flat_cons (p : Int × Int) (l : List (Int × Int)) : flat (p :: l) = p.1 :: p.2 :: flat l := rfl

theorem flat_length (l : List (Int × Int)) : (flat l).length = 2 * l.length := by
  induction l with
  | nil => rfl
  | cons p r ih => rw [flat_cons, List.length_cons, List.length_cons, List.length_cons, ih, Nat.mul_succ]

theorem wrSeq2_split : ∀ (wl : List (Int × Int)) (A B : List Int) (m : Mem), m.data = A ++ flat wl ++ B → m.viol = false →
    (m.wrSeq (HDR + A.length + 1) 2 (wl.map (fun _ => 1))).data = A ++ flat (wl.map (fun p => (p.1, 1))) ++ B ∧
    (m.wrSeq (HDR + A.length + 1) 2 (wl.map (fun _ => 1))).viol = false := by
  intro wl
  induction wl with
  | nil => intro A B m hd hv; exact ⟨hd, hv⟩
  | cons p wl ih =>
    intro A B m hd hv
    have hd0 : m.data = A ++ p.1 :: p.2 :: (flat wl ++ B) := by rw [hd, flat_cons, List.append_assoc]; rfl
    obtain ⟨e1, v1⟩ := wr_at m (A.length + 1) 1
      (by rw [hd0, List.length_append]; exact Nat.add_lt_add_left (Nat.succ_lt_succ (Nat.succ_pos _)) _) hv
    have hset : (m.wr (HDR + (A.length + 1)) 1).data = (A ++ [p.1, 1]) ++ flat wl ++ B := by
      rw [e1, hd0, List.set_append_right _ _ (Nat.le_add_right _ _), Nat.add_sub_cancel_left]
      simp only [List.set_cons_succ, List.set_cons_zero, List.append_assoc, List.cons_append, List.nil_append]
    have := ih (A ++ [p.1, 1]) B _ hset v1
    rw [List.length_append, show ([p.1, (1 : Int)]).length = 2 from rfl] at this
    simpa only [List.map_cons, Mem.wrSeq, flat_cons, Nat.add_assoc, List.append_assoc, List.cons_append,
      List.nil_append] using this

/-- the compaction loop of `weaken` -/
theorem patch_wrSeq1 (m : Mem) (pos : Nat) (vs : List Int) (hp : HDR ≤ pos) (hs : pos + vs.length ≤ m.size)
    (hv : m.viol = false) :
    Patch m (m.wrSeq pos 1 vs) pos (pos + vs.length) ∧ (m.wrSeq pos 1 vs).words pos (pos + vs.length) = vs := by
  obtain ⟨hd, hA⟩ := data_split m pos (pos + vs.length) hp (Nat.le_add_right _ _) hs
  have hl := words_length m pos (pos + vs.length) hp hs
  rw [Nat.add_sub_cancel_left] at hl
  obtain ⟨hd', hv'⟩ := wrSeq1_split vs _ _ _ m hd hl hv
  have := patch_of_split hd hd' hl.symm hv'
  rwa [← hA, hl] at this

/-- the weight loop of `weaken` -/
theorem patch_wrSeq2 (m : Mem) (base e : Nat) (wl : List (Int × Int)) (hb : HDR ≤ base) (hbe : base ≤ e)
    (he : e ≤ m.size) (hw : m.words base e = flat wl) (hv : m.viol = false) :
    Patch m (m.wrSeq (base + 1) 2 (wl.map (fun _ => 1))) base e ∧
      (m.wrSeq (base + 1) 2 (wl.map (fun _ => 1))).words base e = flat (wl.map (fun p => (p.1, 1))) := by
  obtain ⟨hd, hA⟩ := data_split m base e hb hbe he
  have hl := words_length m base e hb he
  rw [hw] at hd hl
  obtain ⟨hd', hv'⟩ := wrSeq2_split wl _ _ m hd hv
  have := patch_of_split hd hd' (by rw [flat_length, flat_length, List.length_map]) hv'
  rwa [← hA, hl, Nat.add_sub_cancel' hbe] at this

/-- word encoding of a body: literals only for a normal body, (literal, weight) pairs otherwise. -/
def enc (bt : Nat) (body : List (Int × Int)) : List Int :=
  if bt = 0 then body.map (·.1) else body.flatMap (fun p => [p.1, p.2])

theorem enc_nil (bt : Nat) : enc bt [] = [] := by unfold enc; split <;> rfl

theorem isEmpty_enc (bt : Nat) (body : List (Int × Int)) : ((enc bt body).length == 0) = body.isEmpty := by
  unfold enc; cases body <;> split <;> rfl

theorem enc_append (bt : Nat) (body : List (Int × Int)) (l w : Int) :
    enc bt (body ++ [(l, w)]) = enc bt body ++ if bt = 0 then [l] else [l, w] := by
  unfold enc; split <;> simp

theorem enc_nonzero (bt : Nat) (h : bt ≠ 0) (body : List (Int × Int)) : enc bt body = flat body := if_neg h

theorem pairs_flat (l : List (Int × Int)) : pairs (flat l) = l := by
  induction l with
  | nil => rfl
  | cons p l ih => rw [flat_cons, pairs, ih]

/-- the refinement relation between the memory block and the abstract rule.  Offset 0 lies in the header, so it marks a part
    that is not started (the tests `mbeg == 0`, `mend == 0` of the operations); the part described last ends at `top`, the
    other one lies below it. -/
structure R (c : RB) (a : AR) : Prop where
  noviol : c.mem.viol = false
  fix    : c.fix = a.frozen
  top_ge : HDR ≤ c.top
  top_le : c.top ≤ c.mem.size
  h_un   : a.hStarted = false → c.head = {} ∧ a.head = [] ∧ a.ht = 0
  h_st   : a.hStarted = true → HDR ≤ c.head.mbeg ∧ c.head.mbeg ≤ c.head.mend ∧ c.head.mend ≤ c.top ∧
             c.head.type = a.ht ∧ c.mem.words c.head.mbeg c.head.mend = a.head
  b_un   : a.bStarted = false → c.body = {} ∧ a.body = [] ∧ a.bt = 0
  b_st   : a.bStarted = true → HDR + (if a.bt = 0 then 0 else 1) ≤ c.body.mbeg ∧ c.body.mbeg ≤ c.body.mend ∧
             c.body.mend ≤ c.top ∧ c.body.type = a.bt ∧ c.mem.words c.body.mbeg c.body.mend = enc a.bt a.body ∧
             (a.bt ≠ 0 → c.mem.rd (c.body.mbeg - 1) = a.bound)
  w1     : a.bt = 0 → ∀ p ∈ a.body, p.2 = 1
  last_h : a.last = .head → a.hStarted = true ∧ c.head.mend = c.top ∧
             (a.bStarted = true → c.body.mend ≤ c.head.mbeg)
  last_b : a.last = .body → a.bStarted = true ∧ c.body.mend = c.top ∧
             (a.hStarted = true → c.head.mend + (if a.bt = 0 then 0 else 1) ≤ c.body.mbeg)
  last_n : a.last = .none → a.hStarted = false ∧ a.bStarted = false
  min_sum : a.ht = 2 → a.bt ≠ 0

theorem R_empty (m : Mem) (hv : m.viol = false) : R { mem := m } AR.init where
  noviol := hv
  fix := rfl
  top_ge := Nat.le_refl _
  top_le := Nat.le_add_right _ _
  h_un _ := ⟨rfl, rfl, rfl⟩
  h_st := nofun
  b_un _ := ⟨rfl, rfl, rfl⟩
  b_st := nofun
  w1 _ _ := nofun
  last_h := nofun
  last_b := nofun
  last_n _ := ⟨rfl, rfl⟩
  min_sum := nofun

theorem R_init : R RB.init AR.init := R_empty _ rfl

theorem R_clear {c a} (h : R c a) : R c.clear AR.init := R_empty c.mem h.noviol

theorem R_unfreeze {c a} (h : R c a) (d : Bool) : R (c.unfreeze d) (a.unfreeze d) := by
  unfold RB.unfreeze AR.unfreeze
  rw [h.fix]
  cases a.frozen with
  | false => exact h
  | true =>
    cases d with
    | true => exact R_clear h
    | false => exact { h with fix := rfl }

theorem unfreeze_notfrozen {a : AR} : (a.unfreeze true).frozen = false := by
  unfold AR.unfreeze; cases hf : a.frozen <;> simp [AR.init, hf]

theorem unfreeze_id_c {c : RB} (h : c.fix = false) (d : Bool) : c.unfreeze d = c := by
  unfold RB.unfreeze; rw [h]; rfl

theorem unfreeze_id_a {a : AR} (h : a.frozen = false) (d : Bool) : a.unfreeze d = a := by
  unfold AR.unfreeze; rw [h]; rfl

namespace R
variable {c : RB} {a : AR}

theorem head_le (h : R c a) : c.head.mend ≤ c.top := by
  cases hs : a.hStarted with
  | false => rw [(h.h_un hs).1]; exact Nat.zero_le _
  | true => exact (h.h_st hs).2.2.1

theorem body_le (h : R c a) : c.body.mend ≤ c.top := by
  cases hs : a.bStarted with
  | false => rw [(h.b_un hs).1]; exact Nat.zero_le _
  | true => exact (h.b_st hs).2.2.1

theorem head_type (h : R c a) : c.head.type = a.ht := by
  cases hs : a.hStarted with
  | false => rw [(h.h_un hs).1, (h.h_un hs).2.2]
  | true => exact (h.h_st hs).2.2.2.1

theorem body_type (h : R c a) : c.body.type = a.bt := by
  cases hs : a.bStarted with
  | false => rw [(h.b_un hs).1, (h.b_un hs).2.2]
  | true => exact (h.b_st hs).2.2.2.1

theorem head_words (h : R c a) : c.mem.words c.head.mbeg c.head.mend = a.head := by
  cases hs : a.hStarted with
  | false => rw [(h.h_un hs).1, (h.h_un hs).2.1]; rfl
  | true => exact (h.h_st hs).2.2.2.2

theorem body_words (h : R c a) : c.mem.words c.body.mbeg c.body.mend = enc a.bt a.body := by
  cases hs : a.bStarted with
  | false => rw [(h.b_un hs).1, (h.b_un hs).2.1, (h.b_un hs).2.2]; rfl
  | true => exact (h.b_st hs).2.2.2.2.1

theorem head_len (h : R c a) : c.head.len = a.head.length := by
  cases hs : a.hStarted with
  | false => rw [(h.h_un hs).1, (h.h_un hs).2.1]; rfl
  | true =>
    obtain ⟨h1, -, h3, -, h5⟩ := h.h_st hs
    rw [← h5, words_length _ _ _ h1 (Nat.le_trans h3 h.top_le)]; rfl

theorem body_len (h : R c a) : c.body.len = (enc a.bt a.body).length := by
  cases hs : a.bStarted with
  | false => rw [(h.b_un hs).1, (h.b_un hs).2.1, (h.b_un hs).2.2]; rfl
  | true =>
    obtain ⟨h1, -, h3, -, h5, -⟩ := h.b_st hs
    rw [← h5, words_length _ _ _ (Nat.le_trans (Nat.le_add_right _ _) h1) (Nat.le_trans h3 h.top_le)]; rfl

theorem head_zero (h : R c a) : (c.head.mbeg == 0) = !a.hStarted ∧ (c.head.mend == 0) = !a.hStarted := by
  cases hs : a.hStarted with
  | false => rw [(h.h_un hs).1]; exact ⟨rfl, rfl⟩
  | true =>
    obtain ⟨h1, h2, -⟩ := h.h_st hs
    have hb := Nat.lt_of_lt_of_le HDR_pos h1
    exact ⟨beq_false_of_ne (Nat.ne_of_gt hb), beq_false_of_ne (Nat.ne_of_gt (Nat.lt_of_lt_of_le hb h2))⟩

theorem body_zero (h : R c a) : (c.body.mbeg == 0) = !a.bStarted ∧ (c.body.mend == 0) = !a.bStarted := by
  cases hs : a.bStarted with
  | false => rw [(h.b_un hs).1]; exact ⟨rfl, rfl⟩
  | true =>
    obtain ⟨h1, h2, -⟩ := h.b_st hs
    have hb := Nat.lt_of_lt_of_le HDR_pos (Nat.le_trans (Nat.le_add_right _ _) h1)
    exact ⟨beq_false_of_ne (Nat.ne_of_gt hb), beq_false_of_ne (Nat.ne_of_gt (Nat.lt_of_lt_of_le hb h2))⟩

theorem bStarted_of_bt (h : R c a) (hbt : a.bt ≠ 0) : a.bStarted = true := by
  cases hs : a.bStarted with
  | false => exact absurd (h.b_un hs).2.2 hbt
  | true => rfl

theorem body_below_head (h : R c a) (hl : a.last = .head) : c.body.mend ≤ c.head.mbeg := by
  cases hs : a.bStarted with
  | false => rw [(h.b_un hs).1]; exact Nat.zero_le _
  | true => exact (h.last_h hl).2.2 hs

theorem head_below_body (h : R c a) (hl : a.last = .body) : c.head.mend ≤ c.body.mbeg := by
  cases hs : a.hStarted with
  | false => rw [(h.h_un hs).1]; exact Nat.zero_le _
  | true => exact Nat.le_trans (Nat.le_add_right _ _) ((h.last_b hl).2.2 hs)

theorem bound_pos (h : R c a) (hbt : a.bt ≠ 0) : HDR + 1 ≤ c.body.mbeg ∧ c.body.mbeg ≤ c.top := by
  obtain ⟨h1, h2, h3, -⟩ := h.b_st (h.bStarted_of_bt hbt)
  rw [if_neg hbt] at h1
  exact ⟨h1, Nat.le_trans h2 h3⟩

/-- the bound word as word `i`, so that no subtraction is left -/
theorem bound_word (h : R c a) (hbt : a.bt ≠ 0) : ∃ i, c.body.mbeg = i + 1 ∧ HDR ≤ i ∧ i < c.top := by
  obtain ⟨h1, h2⟩ := h.bound_pos hbt
  obtain ⟨i, hi⟩ := Nat.exists_eq_add_of_le' (Nat.le_trans (Nat.le_add_left 1 HDR) h1)
  exact ⟨i, hi, Nat.le_of_succ_le_succ (Nat.le_trans h1 (Nat.le_of_eq hi)),
    Nat.lt_of_lt_of_le (Nat.lt_of_succ_le (Nat.le_of_eq hi.symm)) h2⟩

theorem sum_words (h : R c a) (hbt : a.bt ≠ 0) :
    c.body.mend = c.body.mbeg + 2 * a.body.length ∧ c.mem.words c.body.mbeg c.body.mend = flat a.body := by
  have hlen : c.body.mend - c.body.mbeg = _ := h.body_len
  rw [enc_nonzero _ hbt, flat_length] at hlen
  exact ⟨(Nat.sub_eq_iff_eq_add' (h.b_st (h.bStarted_of_bt hbt)).2.1).mp hlen, h.body_words.trans (enc_nonzero _ hbt _)⟩

theorem last_sum (h : R c a) (hbt : a.bt ≠ 0) (hl : a.last = .body) :
    a.bStarted = true ∧ c.body.mend = c.top ∧ (a.hStarted = true → c.head.mend + 1 ≤ c.body.mbeg) := by
  obtain ⟨x, y, z⟩ := h.last_b hl
  rw [if_neg hbt] at z
  exact ⟨x, y, z⟩

theorem head_off_sum (h : R c a) (hs : a.hStarted = true) (hbt : a.bt ≠ 0) {i : Nat} (hi : c.body.mbeg = i + 1) :
    c.head.mend ≤ i ∨ c.body.mend ≤ c.head.mbeg := by
  cases hl : a.last with
  | none => exact absurd hs (by rw [(h.last_n hl).1]; exact Bool.false_ne_true)
  | head => exact Or.inr ((h.last_h hl).2.2 (h.bStarted_of_bt hbt))
  | body => exact Or.inl (Nat.le_of_succ_le_succ (Nat.le_trans ((h.last_sum hbt hl).2.2 hs) (Nat.le_of_eq hi)))

/-! the conclusions below are the fields `h_st`, `b_st` of `R` for a new block `m'` and a new top `t'` -/

theorem head_st (h : R c a) (hs : a.hStarted = true) {m' : Mem} {t' : Nat}
    (hw : m'.words c.head.mbeg c.head.mend = c.mem.words c.head.mbeg c.head.mend) (ht : c.head.mend ≤ t') :
    HDR ≤ c.head.mbeg ∧ c.head.mbeg ≤ c.head.mend ∧ c.head.mend ≤ t' ∧ c.head.type = a.ht ∧
      m'.words c.head.mbeg c.head.mend = a.head :=
  have ⟨h1, h2, _, h4, h5⟩ := h.h_st hs
  ⟨h1, h2, ht, h4, hw.trans h5⟩

theorem body_st (h : R c a) (hs : a.bStarted = true) {m' : Mem} {t' : Nat}
    (hw : m'.words c.body.mbeg c.body.mend = c.mem.words c.body.mbeg c.body.mend)
    (hr : a.bt ≠ 0 → m'.rd (c.body.mbeg - 1) = c.mem.rd (c.body.mbeg - 1)) (ht : c.body.mend ≤ t') :
    HDR + (if a.bt = 0 then 0 else 1) ≤ c.body.mbeg ∧ c.body.mbeg ≤ c.body.mend ∧ c.body.mend ≤ t' ∧
      c.body.type = a.bt ∧ m'.words c.body.mbeg c.body.mend = enc a.bt a.body ∧
      (a.bt ≠ 0 → m'.rd (c.body.mbeg - 1) = a.bound) :=
  have ⟨h1, h2, _, h4, h5, h6⟩ := h.b_st hs
  ⟨h1, h2, ht, h4, hw.trans h5, fun hne => (hr hne).trans (h6 hne)⟩

theorem head_below (h : R c a) (hs : a.hStarted = true) {m' : Mem} {t' : Nat} (hm : SameBelow c.mem m' c.top)
    (ht : c.top ≤ t') :
    HDR ≤ c.head.mbeg ∧ c.head.mbeg ≤ c.head.mend ∧ c.head.mend ≤ t' ∧ c.head.type = a.ht ∧
      m'.words c.head.mbeg c.head.mend = a.head :=
  h.head_st hs (hm.words _ h.head_le) (Nat.le_trans h.head_le ht)

theorem body_below (h : R c a) (hs : a.bStarted = true) {m' : Mem} {t' : Nat} (hm : SameBelow c.mem m' c.top)
    (ht : c.top ≤ t') :
    HDR + (if a.bt = 0 then 0 else 1) ≤ c.body.mbeg ∧ c.body.mbeg ≤ c.body.mend ∧ c.body.mend ≤ t' ∧
      c.body.type = a.bt ∧ m'.words c.body.mbeg c.body.mend = enc a.bt a.body ∧
      (a.bt ≠ 0 → m'.rd (c.body.mbeg - 1) = a.bound) := by
  refine h.body_st hs (hm.words _ h.body_le) (fun hne => ?_) (Nat.le_trans h.body_le ht)
  obtain ⟨i, hi, h1, h2⟩ := h.bound_word hne
  rw [Nat.sub_eq_of_eq_add hi]
  exact hm.rd h1 h2

theorem open_body (h : R c a) (hbs : a.bStarted = false) :
    R { c with body := { mbeg := c.top, mend := c.top, type := 0 } }
      { a with bStarted := true, bt := 0, bound := -1, body := [], last := .body } :=
  { h with
    b_un := nofun
    b_st := fun _ => ⟨h.top_ge, Nat.le_refl _, Nat.le_refl _, rfl, words_self _ _, fun hne => absurd rfl hne⟩
    w1 := fun _ _ => nofun
    last_h := nofun
    last_b := fun _ => ⟨rfl, rfl, fun _ => h.head_le⟩
    last_n := nofun
    min_sum := fun h2 => absurd (h.b_un hbs).2.2 (h.min_sum h2) }

end R

end PotasscoVerif.RuleBuilder
