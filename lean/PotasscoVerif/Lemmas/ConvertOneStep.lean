/-
  A whole program step of the converter model, plain calls and `endStep` together: from a state between two steps (`step_out`), and from the
  initial state for a step whose externals are compiled away (`step_compiled`, with the rules they stand for: `extP_decl`).
-/
import PotasscoVerif.Lemmas.ConvertStep
import PotasscoVerif.Lemmas.ConvertStepsExt
namespace PotasscoVerif.C02
open PotasscoVerif PotasscoVerif.Convert PotasscoVerif.Asp

/-! ### from a state between two steps -/
theorem run_JKX {c : CS} {P O defs base E} {t : T} (hj : J c P defs) (hk : K c O defs base E) (hxi : XI c t) (ds : List Call) (hx : ∀ d ∈ ds, PlainOk d) :
    ∃ defs', J (ds.foldl CS.apply c) (P ++ (rulesOf ds).filter kept) defs' ∧ K (ds.foldl CS.apply c) (O ++ srcOuts ds) defs' base E ∧
      XI (ds.foldl CS.apply c) (t.run ds) := by
  have := run_ind (Q := fun c src => ∃ defs', J c (P ++ (rulesOf src).filter kept) defs' ∧ K c (O ++ srcOuts src) defs' base E ∧ XI c (t.run src))
    (fun c src d hd ⟨defs1, h1, k1, x1⟩ => by
      obtain ⟨defs2, h2, k2⟩ := apply_plain h1 k1 d hd
      rw [List.append_assoc, ← List.filter_append, ← rulesOf_append] at h2
      rw [List.append_assoc, ← srcOuts_append] at k2
      exact ⟨defs2, h2, k2, run_snoc t src d ▸ x1.step h1.nofail d hd⟩)
    ds hx (c := c) (src := []) ⟨defs, (List.append_nil P).symm ▸ hj, (List.append_nil O).symm ▸ hk, hxi⟩
  rwa [List.nil_append] at this

theorem run_M {c : CS} {Ms base} (hf : c.fail = false) (hM : M c Ms base) (ds : List Call) (hx : ∀ d ∈ ds, PlainOk d) :
    M (ds.foldl CS.apply c) (Ms ++ minsOf ds) base := by
  have := run_ind (Q := fun c src => c.fail = false ∧ M c (Ms ++ minsOf src) base)
    (fun c src d hd ⟨f1, m1⟩ => ⟨(apply_frame c f1 d hd).fail.trans f1, by rw [minsOf_append, ← List.append_assoc]; exact m1.step f1 d hd⟩)
    ds hx (c := c) (src := []) ⟨hf, (List.append_nil Ms).symm ▸ hM⟩
  rw [List.nil_append] at this
  exact this.2

/-- the pending tables when the next step begins: empty, over what has been emitted -/
theorem KO.begin {c : CS} {Oall defs} (h : KO c Oall defs) : K (c.emit .beginStep) [] defs (outsOf c.out) (Rep c defs) :=
  ⟨List.forall_mem_nil _, h.pend ▸ List.forall_mem_nil _, (outsOf_append c.out [.beginStep]).trans (List.append_nil _), fun _ _ h => h⟩

theorem MO.begin {c : CS} {Msrc} (h : MO c Msrc) : M (c.emit .beginStep) [] (minsOf c.out) :=
  ⟨fun _ _ => congrArg (costM _ · _) h.pend, h.pend ▸ List.forall_mem_nil _, (minsOf_append c.out [.beginStep]).trans (List.append_nil _)⟩

/-- all but the translation invariant at the end of the step (that depends on what becomes of the externals); `KO` is for the SAME table of
    auxiliary atoms as `J` -/
theorem step_out {c : CS} {P defs} {t : T} {Oall} (hj : J c P defs) (hxi : XI c t) (hko : KO c Oall defs) (ds : List Call) (hx : ∀ d ∈ ds, PlainOk d) :
    ∃ defs', J (ds.foldl CS.apply (c.emit .beginStep)) (P ++ (rulesOf ds).filter kept) defs' ∧ XI (ds.foldl CS.apply (c.emit .beginStep)) (t.run ds) ∧
      ((∀ d ∈ ds, isHeu d = false) → KO ((ds.foldl CS.apply (c.emit .beginStep)).apply .endStep) (Oall ++ srcOuts ds) defs' ∧
        ∀ Msrc, MO c Msrc → MO ((ds.foldl CS.apply (c.emit .beginStep)).apply .endStep) (Msrc ++ minsOf ds)) := by
  have hb := hj.emit .beginStep rfl
  obtain ⟨defs', h1, k1, x1⟩ := run_JKX hb hko.begin (hxi.emit _) ds hx
  refine ⟨defs', h1, x1, fun hnh => ?_⟩
  have hfs := flushShape_flushMinimize _ x1.m
  have hh := ((run_frame hb.nofail ds hx).2.2 hnh).trans hko.noheu
  exact ⟨K.endStep hko h1.nofail k1 hh hfs, fun Msrc hmo =>
    M.endStep hmo (convert_steps (c.emit .beginStep) ds) h1.nofail (run_M hb.nofail hmo.begin ds hx) hh hfs⟩

/-! ### from the initial state -/
def stepCalls (inc : Bool) (ds : List Call) : List Call := [.initProgram inc, .beginStep] ++ ds ++ [.endStep]

/-- the state just before `endStep` -/
def preEnd (ext inc : Bool) (ds : List Call) : CS := ds.foldl CS.apply ((({ ext := ext } : CS).apply (.initProgram inc)).apply .beginStep)

/-- one step run from a state -/
def stepRun (c : CS) (ds : List Call) : CS := (ds.foldl CS.apply (c.apply .beginStep)).apply .endStep

theorem convert_step (ext inc : Bool) (ds : List Call) : convert ext (stepCalls inc ds) = (preEnd ext inc ds).apply .endStep := by
  unfold convert stepCalls preEnd
  rw [List.foldl_append, List.foldl_append]
  simp only [List.foldl_cons, List.foldl_nil]

theorem convert_stepRun (ext inc : Bool) (ds : List Call) :
    convert ext (stepCalls inc ds) = stepRun (CS.apply { ext := ext } (.initProgram inc)) ds := convert_step ext inc ds

theorem J.init (ext : Bool) : J ({ ext := ext } : CS) [] [] :=
  ⟨inv_init, rfl, rfl, by simp, by simp, fun m _ => TS.nil m⟩

theorem init_JX (ext inc : Bool) : J (CS.apply { ext := ext } (.initProgram inc)) [] [] ∧ XI (CS.apply { ext := ext } (.initProgram inc)) {} ∧
    (CS.apply { ext := ext } (.initProgram inc)).ext = ext := by
  rw [apply_init _ rfl]
  exact ⟨(J.init ext).emit _ rfl, (XI.init ext).emit _, rfl⟩

theorem init_KO_MO (ext inc : Bool) : KO (CS.apply { ext := ext } (.initProgram inc)) [] [] ∧ MO (CS.apply { ext := ext } (.initProgram inc)) [] := by
  rw [apply_init _ rfl]
  exact ⟨⟨rfl, rfl, List.forall_mem_nil _, List.forall_mem_nil _⟩, rfl, [], fun _ _ => rfl, fun _ _ => rfl, List.forall_mem_nil _⟩

theorem J.start (ext inc : Bool) : J ((({ ext := ext } : CS).emit (.initProgram inc)).emit .beginStep) [] [] :=
  ((J.init ext).emit _ rfl).emit _ rfl

theorem preEnd_ext (ext inc : Bool) (ds : List Call) (hx : ∀ d ∈ ds, PlainOk d) : (preEnd ext inc ds).ext = ext :=
  (run_frame (J.start ext inc).nofail ds hx).1

/-- the rules the externals pending at the end of the first step stand for are those the declarative reading gives the directives of the step -/
theorem extP_decl (c : CS) (ds : List Call) (hxi : XI c (({} : T).run ds)) : extP c = extRules ds := by
  have hH : (({} : T).run ds).heads = headsOf ds := by rw [run_heads]; rfl
  have hregs := run_regs ds {} (headsOf ds) fun a ha => hH ▸ ha
  simp only [List.filter_nil, List.nil_append] at hregs
  have key : ∀ v, pendOf c v
      = (((extCalls ds).map (·.1)).filter (fun a => !(headsOf ds).contains a)).filter (fun a => lastExt (extCalls ds) a == v) := by
    intro v
    unfold pendOf
    rw [← hregs, List.filter_filter, hxi.r]
    apply List.filter_congr
    intro a _
    rw [hxi.h a, hxi.v a, hH]
    cases hc : (headsOf ds).contains a
    · have hna : a ∉ headsOf ds := by simpa using hc
      rw [run_val_last ds a hna]; simp
    · simp
  rw [extRules_shape, ← key 1, ← key 0]; rfl

/-- a step without external directives, or converted without the clasp extension: the rules its externals stand for are on the input side -/
theorem step_compiled (ext inc : Bool) (ds : List Call) (hx : ∀ d ∈ ds, PlainOk d) (hE : ext = false ∨ extCalls ds = []) :
    ∃ defs, J (convert ext (stepCalls inc ds)) ((rulesOf ds).filter kept ++ extRules ds) defs ∧
      ((∀ d ∈ ds, isHeu d = false) → KO (convert ext (stepCalls inc ds)) (srcOuts ds) defs ∧ MO (convert ext (stepCalls inc ds)) (minsOf ds)) := by
  obtain ⟨a1, d1, e0⟩ := init_JX ext inc
  obtain ⟨k1, m1⟩ := init_KO_MO ext inc
  obtain ⟨defs, h1, x1, hout⟩ := step_out a1 d1 k1 ds hx
  have he := (run_frame (a1.emit .beginStep rfl).nofail ds hx).1.trans e0
  rw [convert_stepRun, stepRun, apply_begin _ a1.nofail]
  generalize ds.foldl CS.apply ((CS.apply { ext := ext } (.initProgram inc)).emit .beginStep) = c at h1 x1 hout he ⊢
  have e : (if c.ext then [] else extP c) = extRules ds := by
    rw [← extP_decl c ds x1]
    rcases hE with h | h
    · rw [he, h]; rfl
    · rw [extP_nil c (x1.r.trans (run_regs_nil ds {} h)), ite_self]
  refine ⟨defs, ?_, fun hnh => ⟨(hout hnh).1, (hout hnh).2 [] m1⟩⟩
  rw [apply_end _ h1.nofail, ← e]
  exact (h1.flush x1.m).emit _ rfl

end PotasscoVerif.C02
