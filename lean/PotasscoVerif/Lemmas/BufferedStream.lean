/-
  The window refinement behind C09: `Inv` (what holds of the buffer between two operations), `Sim` (buffer against
  abstract character stream) and one simulation lemma per operation.  Every refill goes through `Inv.refill`, every
  consuming operation through `Sim.fwd` / `Sim.rget`.
-/
import PotasscoVerif.Model.BufferedStream
import PotasscoVerif.Spec.CharStream

namespace PotasscoVerif.CharStream

theorem AS.get_nil {a : AS} (h : a.rest = []) : a.get = (0, { a with canUnget := false }) := by
  unfold AS.get; rw [h]

theorem AS.get_lf {a : AS} {r : List Nat} (h : a.rest = 10 :: r) :
    a.get = (10, { rest := r, line := a.line + 1, canUnget := true }) := by
  unfold AS.get; rw [h]; rfl

theorem AS.get_cr {a : AS} {r : List Nat} (h : a.rest = 13 :: r) :
    a.get = (10, { rest := if r.headD 0 = 10 then r.tail else r, line := a.line + 1, canUnget := true }) := by
  unfold AS.get; rw [h]
  rcases r with _ | ⟨y, r⟩
  · rfl
  · by_cases hy : y = 10
    · subst hy; rfl
    · simp only [List.headD_cons, hy, ↓reduceIte, Nat.reduceBEq, Bool.false_eq_true]
      split
      · rename_i e; cases e; exact absurd rfl hy
      · rfl

theorem AS.get_plain {a : AS} {c : Nat} {r : List Nat} (h : a.rest = c :: r) (h0 : c ≠ 0) (h13 : c ≠ 13)
    (h10 : c ≠ 10) : a.get = (c, { rest := r, line := a.line, canUnget := true }) := by
  unfold AS.get; rw [h]; simp only [beq_iff_eq, h0, h13, h10, ↓reduceIte]

theorem AS.get_cases (a : AS) :
    (a.peek = 0 ∧ a.get.1 = 0 ∧ a.get.2.rest = a.rest ∧ a.get.2.line = a.line) ∨
    (a.get.1 = 10 ∧ a.get.2.line = a.line + 1 ∧ (a.rest = 10 :: a.get.2.rest ∨ a.rest = 13 :: 10 :: a.get.2.rest ∨
      a.rest = 13 :: a.get.2.rest ∧ ∀ r, a.get.2.rest ≠ 10 :: r)) ∨
    (a.rest = a.get.1 :: a.get.2.rest ∧ a.get.2.line = a.line ∧ a.get.1 ≠ 0 ∧ a.get.1 ≠ 10 ∧ a.get.1 ≠ 13) := by
  fun_cases AS.get a
  · rename_i h; exact .inl ⟨by rw [AS.peek, h]; rfl, rfl, rfl, rfl⟩
  · rename_i c r h h0; exact .inl ⟨by rw [AS.peek, h]; exact beq_iff_eq.mp h0, rfl, rfl, rfl⟩
  · rename_i c _ h13 r h; rw [beq_iff_eq.mp h13] at h; exact .inr (.inl ⟨rfl, rfl, .inr (.inl h)⟩)
  · rename_i c r h _ h13 hr; rw [beq_iff_eq.mp h13] at h; exact .inr (.inl ⟨rfl, rfl, .inr (.inr ⟨h, fun r' e => hr r' e⟩)⟩)
  · rename_i c r h _ _ h10; rw [beq_iff_eq.mp h10] at h; exact .inr (.inl ⟨rfl, rfl, .inl h⟩)
  · rename_i c r h h0 h13 h10
    exact .inr (.inr ⟨h, rfl, mt beq_iff_eq.mpr h0, mt beq_iff_eq.mpr h10, mt beq_iff_eq.mpr h13⟩)

end PotasscoVerif.CharStream

namespace PotasscoVerif.BufferedStream
open PotasscoVerif.CharStream

def window (s : BS) : List Nat := s.win.drop s.rpos
def remaining (s : BS) : List Nat := window s ++ s.src

structure Inv (B : Nat) (s : BS) : Prop where
  rpos_le   : s.rpos ≤ s.win.length
  len_le    : s.win.length ≤ B
  good_full : s.good = true → s.win.length = B
  bad_src   : s.good = false → s.src = []
  bad_short : s.good = false → s.win.length < B
  nonul_win : ∀ c ∈ s.win, c ≠ 0
  nonul_src : ∀ c ∈ s.src, c ≠ 0
  parked    : s.rpos = s.win.length → s.src = []
  noviol    : s.viol = false

/-- the invariant without "never parked": what holds in the middle of an operation, when `rpos_` may
    rest on the sentinel until `underflow` is called. -/
structure PreInv (B : Nat) (s : BS) : Prop where
  rpos_le   : s.rpos ≤ s.win.length
  len_le    : s.win.length ≤ B
  good_full : s.good = true → s.win.length = B
  bad_src   : s.good = false → s.src = []
  bad_short : s.good = false → s.win.length < B
  nonul_win : ∀ c ∈ s.win, c ≠ 0
  nonul_src : ∀ c ∈ s.src, c ≠ 0
  noviol    : s.viol = false

theorem Inv.pre {B s} (h : Inv B s) : PreInv B s :=
  ⟨h.rpos_le, h.len_le, h.good_full, h.bad_src, h.bad_short, h.nonul_win, h.nonul_src, h.noviol⟩

theorem PreInv.toInv {B s} (h : PreInv B s) (hp : s.rpos = s.win.length → s.src = []) : Inv B s :=
  ⟨h.rpos_le, h.len_le, h.good_full, h.bad_src, h.bad_short, h.nonul_win, h.nonul_src, hp, h.noviol⟩

theorem cell_lt {s : BS} {i : Nat} (h : i < s.win.length) : s.cell i = s.win[i] := by
  simp [BS.cell, List.getD, List.getElem?_eq_getElem h]

theorem cell_ge {s : BS} {i : Nat} (h : s.win.length ≤ i) : s.cell i = 0 := by
  simp [BS.cell, List.getD, List.getElem?_eq_none h]

theorem cell_ne_zero {B s} (hi : PreInv B s) {i : Nat} (h : i < s.win.length) : s.cell i ≠ 0 := by
  rw [cell_lt h]; exact hi.nonul_win _ (List.getElem_mem h)

theorem window_nil {s : BS} (h : s.win.length ≤ s.rpos) : window s = [] := List.drop_eq_nil_of_le h

theorem remaining_withLine {s : BS} (l : Nat) : remaining { s with line := l } = remaining s := rfl

theorem avail_eq {s : BS} : s.avail = (remaining s).length := by
  unfold BS.avail remaining window; simp

theorem remaining_cons_lt {B s c rest} (hi : Inv B s) (hr : remaining s = c :: rest) :
    s.rpos < s.win.length := by
  refine Nat.lt_of_le_of_ne hi.rpos_le fun he => ?_
  rw [remaining, window_nil (Nat.le_of_eq he.symm), hi.parked he] at hr
  cases hr

theorem peek_eq {B s} (hi : Inv B s) : s.peek = (remaining s).headD 0 := by
  cases hr : remaining s with
  | nil =>
    refine cell_ge (Nat.le_of_not_lt fun h => ?_)
    rw [remaining, window, List.drop_eq_getElem_cons h] at hr
    cases hr
  | cons x r =>
    have h := remaining_cons_lt hi hr
    rw [remaining, window, List.drop_eq_getElem_cons h] at hr
    exact (cell_lt h).trans (List.cons.inj hr).1

/-- the shape of the update of the ghost flag `viol` in `underflow` and `compact`. -/
theorem viol_false {v : Bool} {p q : Prop} [Decidable p] [Decidable q] (hv : v = false) (hp : ¬p) (hq : ¬q) :
    (v || decide p || decide q) = false := by
  rw [hv, decide_eq_false hp, decide_eq_false hq]; rfl

/-- every refill has this shape: some kept bytes, then as much of the source as fits behind them. -/
theorem Inv.refill {B : Nat} {t : BS} {keep src : List Nat} {n : Nat}
    (hwin : t.win = keep ++ src.take n) (hsrc : t.src = src.drop n) (hgood : t.good = decide (n ≤ src.length))
    (hviol : t.viol = false) (hr : t.rpos ≤ keep.length) (hn : 0 < n) (hB : keep.length + n = B)
    (hk : ∀ c ∈ keep, c ≠ 0) (hs : ∀ c ∈ src, c ≠ 0) :
    Inv B t ∧ remaining t = keep.drop t.rpos ++ src := by
  have hlen : t.win.length = keep.length + min n src.length := by rw [hwin]; simp
  refine ⟨⟨by omega, by omega, ?_, ?_, ?_, ?_, ?_, ?_, hviol⟩, ?_⟩
  · intro h; rw [hgood, decide_eq_true_eq] at h; omega
  · intro h; rw [hgood, decide_eq_false_iff_not] at h; rw [hsrc]; exact List.drop_eq_nil_of_le (by omega)
  · intro h; rw [hgood, decide_eq_false_iff_not] at h; omega
  · intro c hc
    rw [hwin] at hc
    exact (List.mem_append.mp hc).elim (hk c) fun h => hs c (List.mem_of_mem_take h)
  · intro c hc; rw [hsrc] at hc; exact hs c (List.mem_of_mem_drop hc)
  · intro h; rw [hsrc]; exact List.drop_eq_nil_of_le (by omega)
  · unfold remaining window
    rw [hwin, hsrc, List.drop_append_of_le_length hr, List.append_assoc, List.take_append_drop]

theorem underflow_at_end {B s} (hB : 2 ≤ B) (hi : PreInv B s) (he : s.rpos = s.win.length) :
    Inv B (underflow B s true) ∧ remaining (underflow B s true) = s.src ∧
    (underflow B s true).line = s.line ∧ (0 < s.rpos → 0 < (underflow B s true).rpos) := by
  unfold underflow
  cases hg : s.good with
  | false =>
    refine ⟨hi.toInv fun _ => hi.bad_src hg, ?_, rfl, id⟩
    show window s ++ s.src = s.src
    rw [window_nil (Nat.le_of_eq he.symm)]; rfl
  | true =>
    have hr : 0 < s.rpos := by have := hi.good_full hg; omega
    have hv := viol_false hi.noviol (Nat.not_lt.mpr (Nat.le_of_eq he))
      (Nat.not_lt.mpr (show 1 + (s.src.take (B + 1 - (1 + 1))).length ≤ B by
        have := List.length_take_le (B + 1 - (1 + 1)) s.src; omega))
    simp only [Bool.not_true, Bool.false_eq_true, ↓reduceIte, Bool.true_and, decide_eq_true_eq, hr, hv]
    exact (Inv.refill (keep := [s.cell (s.rpos - 1)]) rfl rfl rfl rfl (Nat.le_refl 1) (by omega) (by simp; omega)
      (fun c h => by rw [List.mem_singleton.mp h]; exact cell_ne_zero hi (by omega)) hi.nonul_src).imp id
      fun h => ⟨h, trivial, fun _ => Nat.one_pos⟩

/-- `if (!buf_[rpos_ += m]) underflow();`, the common tail of `rget`, `match` and `copy`. -/
def fwd (B : Nat) (s : BS) (m : Nat) : BS :=
  let s1 := { s with rpos := s.rpos + m }
  if s1.cell s1.rpos == 0 then underflow B s1 true else s1

theorem advance {B s} (hB : 2 ≤ B) (hi : Inv B s) (m : Nat) (hm : 0 < m) (hle : s.rpos + m ≤ s.win.length) :
    let s1 := { s with rpos := s.rpos + m }
    let s2 := if s1.cell s1.rpos == 0 then underflow B s1 true else s1
    Inv B s2 ∧ remaining s2 = (remaining s).drop m ∧ s2.line = s.line ∧ 0 < s2.rpos := by
  intro s1 s2
  have hp1 : PreInv B s1 := { hi.pre with rpos_le := hle }
  have hrem : (remaining s).drop m = s.win.drop (s.rpos + m) ++ s.src := by
    unfold remaining window
    rw [List.drop_append_of_le_length (by simp; omega), List.drop_drop]
  rw [hrem]
  by_cases he : s.rpos + m = s.win.length
  · have h2 : s2 = underflow B s1 true := if_pos (beq_iff_eq.mpr (cell_ge (Nat.le_of_eq he.symm)))
    have hu := underflow_at_end hB hp1 he
    rw [h2, List.drop_eq_nil_of_le (Nat.le_of_eq he.symm)]
    exact ⟨hu.1, hu.2.1, hu.2.2.1, hu.2.2.2 (Nat.lt_of_lt_of_le hm (Nat.le_add_left ..))⟩
  · have h2 : s2 = s1 := if_neg fun h => cell_ne_zero hp1 (Nat.lt_of_le_of_ne hle he) (beq_iff_eq.mp h)
    rw [h2]
    exact ⟨hp1.toInv fun h => absurd h he, rfl, rfl, Nat.lt_of_lt_of_le hm (Nat.le_add_left ..)⟩

theorem rget_spec {B s c rest} (hB : 2 ≤ B) (hi : Inv B s) (hr : remaining s = c :: rest) :
    (rget B s).1 = c ∧ Inv B (rget B s).2 ∧ remaining (rget B s).2 = rest ∧
    (rget B s).2.line = s.line ∧ 0 < (rget B s).2.rpos := by
  have hlt := remaining_cons_lt hi hr
  have ha := advance hB hi 1 Nat.one_pos hlt
  have hv : (s.viol || decide (s.win.length < s.rpos + 1)) = s.viol := by
    rw [decide_eq_false (Nat.not_lt.mpr hlt), Bool.or_false]
  rw [hr] at ha
  unfold rget
  rw [hv, peek_eq hi, hr]
  exact ⟨rfl, ha⟩

theorem rget_peek {B s} : (rget B s).1 = s.peek := rfl

structure Sim (B : Nat) (c : BS) (a : AS) : Prop where
  inv  : Inv B c
  rest : remaining c = a.rest
  line : c.line = a.line
  ung  : a.canUnget = true → 0 < c.rpos

theorem Sim.peek {B c a} (h : Sim B c a) : c.peek = a.peek := by
  rw [peek_eq h.inv, h.rest]; rfl

/-- the abstract state may forget that a character can be put back. -/
theorem Sim.weaken {B c a a'} (h : Sim B c a) (hr : a.rest = a'.rest) (hl : a.line = a'.line)
    (hu : a'.canUnget = true → a.canUnget = true) : Sim B c a' :=
  ⟨h.inv, h.rest.trans hr, h.line.trans hl, fun e => h.ung (hu e)⟩

theorem Sim.noUnget {B c a} (h : Sim B c a) : Sim B c { a with canUnget := false } :=
  h.weaken rfl rfl fun e => nomatch e

theorem Sim.newline {B c r l u} (h : Sim B c ⟨r, l, u⟩) : Sim B { c with line := c.line + 1 } ⟨r, l + 1, u⟩ :=
  ⟨{ h.inv with }, h.rest, congrArg (· + 1) h.line, h.ung⟩

theorem Sim.fwd {B c a m} (hB : 2 ≤ B) (h : Sim B c a) (hm : 0 < m) (hle : c.rpos + m ≤ c.win.length) :
    Sim B (fwd B c m) { a with rest := a.rest.drop m, canUnget := true } :=
  have ha := advance hB h.inv m hm hle
  ⟨ha.1, ha.2.1.trans (congrArg _ h.rest), ha.2.2.1.trans h.line, fun _ => ha.2.2.2⟩

theorem Sim.rget {B c a x r} (hB : 2 ≤ B) (h : Sim B c a) (hr : a.rest = x :: r) :
    c.peek = x ∧ Sim B (rget B c).2 { a with rest := r, canUnget := true } :=
  have hg := rget_spec hB h.inv (h.rest.trans hr)
  ⟨hg.1, hg.2.1, hg.2.2.1, hg.2.2.2.1.trans h.line, fun _ => hg.2.2.2.2⟩

theorem Sim.nonul {B c a} (h : Sim B c a) : ∀ x ∈ a.rest, x ≠ 0 := h.rest ▸ fun x hx =>
  (List.mem_append.mp hx).elim (fun hw => h.inv.nonul_win x (List.mem_of_mem_drop hw)) (h.inv.nonul_src x)

theorem get_sim {B c a} (hB : 2 ≤ B) (h : Sim B c a) :
    (get B c).1 = a.get.1 ∧ Sim B (get B c).2 a.get.2 := by
  unfold get
  cases hr : a.rest with
  | nil =>
    have hp : c.peek = 0 := by rw [h.peek, AS.peek, hr]; rfl
    rw [AS.get_nil hr, hp]
    exact ⟨rfl, h.noUnget⟩
  | cons x r =>
    obtain ⟨hp, h1⟩ := h.rget hB hr
    have hx0 : x ≠ 0 := h.nonul x (hr ▸ List.mem_cons_self)
    by_cases h13 : x = 13
    · subst h13
      have hs := @AS.get_cr _ _ hr
      rcases r with _ | ⟨y, r⟩
      · simp only [hp, hs, h1.peek, AS.peek, List.headD_nil, Nat.reduceBEq, Nat.reduceEqDiff, Bool.false_eq_true, ↓reduceIte]
        exact ⟨trivial, h1.newline⟩
      · by_cases hy : y = 10
        · subst hy
          simp only [hp, hs, h1.peek, AS.peek, List.headD_cons, Nat.reduceBEq, Bool.false_eq_true, ↓reduceIte, List.tail_cons]
          exact ⟨trivial, (h1.rget hB rfl).2.newline⟩
        · simp only [hp, hs, h1.peek, AS.peek, List.headD_cons, Nat.reduceBEq, Bool.false_eq_true, ↓reduceIte, beq_iff_eq, hy]
          exact ⟨trivial, h1.newline⟩
    · by_cases h10 : x = 10
      · subst h10
        simp only [hp, AS.get_lf hr, Nat.reduceBEq, Bool.false_eq_true, ↓reduceIte]
        exact ⟨trivial, h1.newline⟩
      · simp only [hp, AS.get_plain hr hx0 h13 h10, beq_iff_eq, hx0, h13, h10, ↓reduceIte]
        exact ⟨trivial, h1⟩

theorem skipWsF_sim {B} (hB : 2 ≤ B) (f : Nat) : ∀ {c a}, Sim B c a → Sim B (skipWsF B f c) (AS.skipWsF f a) := by
  induction f with
  | zero => exact id
  | succ f ih =>
    intro c a h
    unfold skipWsF AS.skipWsF
    rw [h.peek]
    split
    · exact ih (get_sim hB h).2
    · exact h

theorem skipWs_sim {B c a} (hB : 2 ≤ B) (h : Sim B c a) : Sim B (skipWs B c) a.skipWs := by
  unfold skipWs AS.skipWs
  rw [avail_eq, h.rest]
  exact skipWsF_sim hB _ h.noUnget

theorem unget_sim {B c a} (h : Sim B c a) (hu : a.canUnget = true) (x : Nat) (hx : x ≠ 0) :
    (unget c x).1 = true ∧ Sim B (unget c x).2 (a.unget x) := by
  have hpos := h.ung hu
  have hi := h.inv
  have hle := hi.rpos_le
  have hv : (c.viol || decide (c.win.length ≤ c.rpos - 1)) = false := by
    rw [hi.noviol, decide_eq_false (by omega)]; rfl
  unfold unget
  rw [if_neg (by simpa using Nat.ne_of_gt hpos)]
  refine ⟨rfl, ?_⟩
  simp only [hv]
  have hl : (c.win.set (c.rpos - 1) x).length = c.win.length := List.length_set
  refine ⟨⟨hl ▸ Nat.le_trans (Nat.sub_le ..) hle, hl ▸ hi.len_le, hl ▸ hi.good_full, hi.bad_src, hl ▸ hi.bad_short,
    fun y hy => (List.mem_or_eq_of_mem_set hy).elim (hi.nonul_win y) fun e => e ▸ hx, hi.nonul_src,
    fun e => absurd (hl ▸ e : c.rpos - 1 = c.win.length) (by omega), rfl⟩, ?_, ?_, fun e => nomatch e⟩
  · show (c.win.set (c.rpos - 1) x).drop (c.rpos - 1) ++ c.src = x :: a.rest
    rw [← h.rest, List.drop_eq_getElem_cons (by omega), List.getElem_set_self, List.drop_set_of_lt (by omega)]
    show x :: ((c.win.drop (c.rpos - 1 + 1)) ++ c.src) = x :: ((c.win.drop c.rpos) ++ c.src)
    rw [Nat.sub_add_cancel hpos]
  · show (if (x == 10) = true then decLine c.line else c.line) = if (x == 10) = true then decLine a.line else a.line
    rw [h.line]


theorem isPrefixOf_append_of_le (w l r : List Nat) (h : w.length ≤ l.length) :
    w.isPrefixOf (l ++ r) = w.isPrefixOf l := by
  rw [Bool.eq_iff_iff, List.isPrefixOf_iff_prefix, List.isPrefixOf_iff_prefix]
  exact ⟨fun hp => List.prefix_of_prefix_length_le hp (List.prefix_append l r) h,
    fun hp => hp.trans (List.prefix_append l r)⟩

/-- `hw` is `|w| ≤ BUF_SIZE - rpos_`: when `w` is longer than what is left of the window, the window is short, so the
    source is exhausted. -/
theorem startsAt_eq {B s} (hi : Inv B s) (w : List Nat) (hw : w.length ≤ B - s.rpos) :
    startsAt s w = w.isPrefixOf (remaining s) := by
  unfold startsAt remaining
  by_cases h : w.length ≤ (window s).length
  · exact (isPrefixOf_append_of_le w (window s) s.src h).symm
  · have hlen : (window s).length = s.win.length - s.rpos := List.length_drop
    have hb : s.good = false := by
      cases hg : s.good with
      | false => rfl
      | true => have := hi.good_full hg; omega
    rw [hi.bad_src hb, List.append_nil]; rfl

theorem matchHere_sim {B c a} (hB : 2 ≤ B) (h : Sim B c a) (w : List Nat) (hne : w ≠ [])
    (hw : w.length ≤ B - c.rpos) :
    (matchHere B c w).1 = (a.matchTok w).1 ∧ Sim B (matchHere B c w).2 (a.matchTok w).2 := by
  have hs := startsAt_eq h.inv w hw
  unfold matchHere AS.matchTok
  rw [hs, h.rest]
  cases hp : w.isPrefixOf a.rest with
  | false => exact ⟨rfl, h.noUnget⟩
  | true =>
    have hle := (List.isPrefixOf_iff_prefix.mp (hs.trans (h.rest ▸ hp))).length_le
    rw [List.length_drop] at hle
    exact ⟨rfl, h.fwd hB (List.length_pos_iff.mpr hne) (by have := h.inv.rpos_le; omega)⟩

theorem compact_sim {B s a} (h : Sim B s a) (hpos : 0 < s.rpos) :
    Sim B (compact B s) { a with canUnget := false } ∧ (compact B s).rpos = 0 := by
  have hi := h.inv
  have hrl := hi.rpos_le
  have hk : ∀ c ∈ s.win.drop s.rpos, c ≠ 0 := fun c h => hi.nonul_win c (List.mem_of_mem_drop h)
  have hlen : (s.win.drop s.rpos).length = s.win.length - s.rpos := List.length_drop
  unfold compact
  cases hg : s.good with
  | true =>
    have hfull := hi.good_full hg
    have hn : B + 1 - (1 + (B - s.rpos)) = s.rpos := by
      rw [Nat.add_comm 1, Nat.add_sub_add_right, Nat.sub_sub_self (hfull ▸ hrl)]
    have hv := viol_false hi.noviol (not_not_intro (hfull ▸ hlen))
      (show ¬ B < B - s.rpos + (s.src.take s.rpos).length by have := List.length_take_le s.rpos s.src; omega)
    simp only [↓reduceIte, hn, hv]
    exact (Inv.refill rfl rfl rfl rfl (Nat.zero_le _) hpos (by rw [hlen, Nat.sub_add_cancel hrl, hfull]) hk
      hi.nonul_src).elim fun h1 h2 => ⟨⟨h1, h2.trans h.rest, h.line, nofun⟩, trivial⟩
  | false =>
    have hs := hi.bad_src hg
    have hsh := hi.bad_short hg
    have hv := viol_false hi.noviol (Nat.not_le.mpr hsh) (show ¬ B < s.rpos by omega)
    simp only [Bool.false_eq_true, ↓reduceIte, hv]
    exact ⟨⟨⟨Nat.zero_le _, hlen ▸ by omega, fun h => (nomatch h), fun _ => hs, fun _ => hlen ▸ by omega, hk,
      hi.nonul_src, fun _ => hs, rfl⟩, h.rest, h.line, nofun⟩, trivial⟩

theorem matchTok_sim {B c a} (hB : 2 ≤ B) (h : Sim B c a) (w : List Nat) (hne : w ≠ []) (hw : w.length ≤ B) :
    ∃ r, matchTok B c w = some r ∧ r.1 = (a.matchTok w).1 ∧ Sim B r.2 (a.matchTok w).2 := by
  have hrl := h.inv.rpos_le
  have hll := h.inv.len_le
  unfold matchTok
  rw [if_neg (fun hn => by omega)]
  refine ⟨_, rfl, ?_⟩
  by_cases hc : B - c.rpos < w.length
  · rw [if_pos hc]
    have hcs := compact_sim h (by omega)
    exact matchHere_sim hB hcs.1 w hne (by rw [hcs.2]; omega)
  · rw [if_neg hc]
    exact matchHere_sim hB h w hne (by omega)


/-- the saturating accumulation of the repaired digit loop over a digit string. -/
def satVal : List Nat → Nat → Nat
  | [], acc => acc
  | c :: r, acc => satVal r (satStep acc (toDigit c))

theorem val_mono : ∀ (r : List Nat) (a b : Nat), a ≤ b → val r a ≤ val r b := by
  intro r
  induction r with
  | nil => intro a b h; exact h
  | cons c r ih => intro a b h; exact ih _ _ (by omega)

theorem val_ge : ∀ (r : List Nat) (a : Nat), a ≤ val r a := by
  intro r
  induction r with
  | nil => intro a; exact Nat.le_refl a
  | cons c r ih => intro a; exact Nat.le_trans (by omega) (ih _)

theorem satStep_eq (acc d : Nat) (hd : d ≤ 9) : satStep acc d = min (acc * 10 + d) I64MAX := by
  unfold satStep I64MAX
  split <;> omega

theorem isDigit_range {d : Nat} (h : isDigit d = true) : 48 ≤ d ∧ d ≤ 57 := by
  simpa [isDigit] using h

theorem toDigit_le {c : Nat} (h : isDigit c = true) : toDigit c ≤ 9 := by
  have := isDigit_range h; unfold toDigit; omega

theorem digitRun_cons (x : Nat) (r : List Nat) :
    digitRun (x :: r) = if isDigit x then (x :: (digitRun r).1, (digitRun r).2) else ([], x :: r) := rfl

theorem takeWhile_mem {α : Type} (p : α → Bool) (l : List α) : ∀ c ∈ l.takeWhile p, p c = true :=
  List.all_eq_true.mp List.all_takeWhile

theorem dropWhile_head {α : Type} (p : α → Bool) (l : List α) : ∀ c r, l.dropWhile p = c :: r → p c = false := by
  intro c r e
  have h := List.head?_dropWhile_not p l
  rwa [e] at h

theorem digitRun_eq : ∀ (l : List Nat), digitRun l = (l.takeWhile isDigit, l.dropWhile isDigit) := by
  intro l
  induction l with
  | nil => rfl
  | cons x r ih =>
    rw [digitRun_cons, ih]
    by_cases hd : isDigit x = true
    · rw [if_pos hd, List.takeWhile_cons_of_pos hd, List.dropWhile_cons_of_pos hd]
    · rw [if_neg hd, List.takeWhile_cons_of_neg hd, List.dropWhile_cons_of_neg hd]

theorem digitRun_digits (r : List Nat) : ∀ c ∈ (digitRun r).1, isDigit c = true := by
  rw [digitRun_eq]; exact takeWhile_mem _ _

theorem digitRun_append : ∀ (r : List Nat), (digitRun r).1 ++ (digitRun r).2 = r := by
  intro r; rw [digitRun_eq]; exact List.takeWhile_append_dropWhile

theorem digitRun_ne_nil {l : List Nat} (h : isDigit (l.headD 0) = true) : (digitRun l).1 ≠ [] := by
  rw [digitRun_eq]
  cases l with
  | nil => cases h
  | cons c r => exact List.takeWhile_cons_of_pos h ▸ List.cons_ne_nil _ _

/-- a number is never altered (C03, C07, C09): the exact value up to `INT64_MAX`, `INT64_MAX` beyond, whatever the length. -/
theorem satVal_exact : ∀ (ds : List Nat) (acc : Nat), acc ≤ I64MAX → (∀ c ∈ ds, isDigit c = true) →
    satVal ds acc = min (val ds acc) I64MAX := by
  intro ds
  induction ds with
  | nil => intro acc h _; exact (Nat.min_eq_left h).symm
  | cons c r ih =>
    intro acc h hd
    have hc := toDigit_le (hd c List.mem_cons_self)
    show satVal r _ = min (val r _) I64MAX
    rw [ih _ (by rw [satStep_eq _ _ hc]; exact Nat.min_le_right ..) fun x hx => hd x (List.mem_cons_of_mem _ hx),
      satStep_eq _ _ hc]
    by_cases hle : acc * 10 + toDigit c ≤ I64MAX
    · rw [Nat.min_eq_left hle]
    · -- once saturated, both sides stay at the cap: `val` only grows
      have h2 := val_ge r I64MAX
      have h3 := val_mono r I64MAX (acc * 10 + toDigit c) (by omega)
      rw [Nat.min_eq_right (Nat.le_of_not_le hle)]
      omega

theorem digitsF_succ (B f : Nat) (s : BS) (acc : Nat) : digitsF B (f + 1) s acc =
    if isDigit s.peek then digitsF B f (rget B s).2 (satStep acc (toDigit s.peek)) else (acc, s) := rfl

theorem digitsF_sim {B} (hB : 2 ≤ B) : ∀ (f : Nat) {c : BS} {a : AS} (acc : Nat), Sim B c a → a.rest.length < f →
    (digitsF B f c acc).1 = satVal (digitRun a.rest).1 acc ∧
    Sim B (digitsF B f c acc).2
      { a with rest := (digitRun a.rest).2, canUnget := a.canUnget || !(digitRun a.rest).1.isEmpty } := by
  intro f
  induction f with
  | zero => intro c a acc _ h; exact absurd h (Nat.not_lt_zero _)
  | succ f ih =>
    intro c a acc h hf
    rw [digitsF_succ, h.peek, AS.peek]
    cases hr : a.rest with
    | nil => exact ⟨rfl, h.weaken hr rfl (by simp [digitRun])⟩
    | cons x r =>
      rw [hr] at hf
      rw [digitRun_cons, List.headD_cons]
      by_cases hd : isDigit x = true
      · have ih' := ih (satStep acc (toDigit x)) (h.rget hB hr).2 (Nat.lt_of_succ_lt_succ hf)
        rw [if_pos hd, if_pos hd]
        exact ⟨ih'.1, ih'.2.weaken rfl rfl fun _ => rfl⟩
      · rw [if_neg hd, if_neg hd]
        exact ⟨rfl, h.weaken hr rfl (by simp)⟩

theorem matchIntDigits_sim {B c1 a1} (hB : 2 ≤ B) (hsign : Sim B c1 a1) (sg : Nat) :
    (matchIntDigits B c1 sg).1 = (a1.matchIntDigits sg).1 ∧
    Sim B (matchIntDigits B c1 sg).2 (a1.matchIntDigits sg).2 := by
  unfold matchIntDigits AS.matchIntDigits
  rw [hsign.peek]
  by_cases hd : isDigit a1.peek = true
  · have hsp := digitsF_sim hB (c1.avail + 1) 0 hsign (by rw [avail_eq, hsign.rest]; exact Nat.lt_succ_self _)
    have hex := satVal_exact (digitRun a1.rest).1 0 (Nat.zero_le _) (digitRun_digits a1.rest)
    have hne := List.isEmpty_eq_false_iff.mpr (digitRun_ne_nil hd)
    simp only [hd, Bool.not_true, Bool.false_eq_true, ↓reduceIte]
    exact ⟨by rw [hsp.1, hex], hsp.2.weaken rfl rfl fun _ => by rw [hne]; simp⟩
  · simp only [hd, Bool.not_false, ↓reduceIte]
    exact ⟨trivial, hsign⟩

theorem matchIntCore_sim {B c a} (hB : 2 ≤ B) (h : Sim B c a) :
    (matchIntCore B c).1 = a.matchIntCore.1 ∧ Sim B (matchIntCore B c).2 a.matchIntCore.2 := by
  unfold matchIntCore AS.matchIntCore
  rw [h.peek]
  apply matchIntDigits_sim hB
  split
  · rename_i hs
    cases hr : a.rest with
    | nil => rw [AS.peek, hr] at hs; cases hs
    | cons x r => exact (h.rget hB hr).2
  · exact h

theorem matchInt_sim {B c a} (hB : 2 ≤ B) (h : Sim B c a) (n : Bool) :
    (matchInt B c n).1 = (a.matchInt n).1 ∧ Sim B (matchInt B c n).2 (a.matchInt n).2 := by
  unfold matchInt AS.matchInt
  cases n with
  | true => exact matchIntCore_sim hB h.noUnget
  | false => exact matchIntCore_sim hB (skipWs_sim hB h)


theorem takeWhile_nonul : ∀ (l : List Nat), (∀ c ∈ l, c ≠ 0) → l.takeWhile (· != 0) = l := by
  intro l h
  simpa using List.takeWhile_append_of_pos (l₂ := []) fun c hc => bne_iff_ne.mpr (h c hc)

/-- one round of `copyF`, `w` the window and `s` the source. -/
theorem take_chunk (w s : List Nat) (n : Nat) :
    w.take n ++ ((w ++ s).drop (w.take n).length).take (n - (w.take n).length) = (w ++ s).take n := by
  have hm : (w.take n).length = min n w.length := List.length_take
  have e : w.take n = (w ++ s).take (w.take n).length := by
    rw [List.take_append_of_le_length (by omega), hm, ← List.take_eq_take_min]
  generalize (w.take n).length = m at *
  rw [e, ← List.take_add]
  congr 1; omega

theorem copyF_succ (B f : Nat) (s : BS) (n : Nat) (out : List Nat) : copyF B (f + 1) s n out =
    if n == 0 || s.peek == 0 then (out, s) else
      copyF B f (fwd B s (((window s).takeWhile (· != 0)).take n).length)
        (n - (((window s).takeWhile (· != 0)).take n).length) (out ++ ((window s).takeWhile (· != 0)).take n) := rfl

theorem copyF_sim {B} (hB : 2 ≤ B) : ∀ (f : Nat) {c : BS} {a : AS} (n : Nat) (out : List Nat), Sim B c a →
    a.rest.length < f →
    (copyF B f c n out).1 = out ++ a.rest.take n ∧
    Sim B (copyF B f c n out).2
      { a with rest := a.rest.drop n, canUnget := a.canUnget || decide (0 < (a.rest.take n).length) } := by
  intro f
  induction f with
  | zero => intro c a n out _ h; exact absurd h (Nat.not_lt_zero _)
  | succ f ih =>
    intro c a n out h hf
    rw [copyF_succ, h.peek, AS.peek]
    by_cases hn : n = 0
    · subst hn
      rw [if_pos (by rfl)]
      exact ⟨(List.append_nil _).symm, h.weaken rfl rfl (by simp)⟩
    · cases hr : a.rest with
      | nil => rw [if_pos (by simp)]; exact ⟨by simp, h.weaken (by rw [hr]; simp) rfl (by simp)⟩
      | cons x r =>
        have hx0 : x ≠ 0 := h.nonul x (hr ▸ List.mem_cons_self)
        have hlt := remaining_cons_lt h.inv (h.rest.trans hr)
        rw [if_neg (by simp [hn, hx0]),
          takeWhile_nonul (window c) fun y hy => h.inv.nonul_win y (List.mem_of_mem_drop hy)]
        rw [← hr]
        have hwl : (window c).length ≤ a.rest.length := by
          rw [← h.rest, remaining, List.length_append]; exact Nat.le_add_right ..
        have hwn : (window c).length = c.win.length - c.rpos := List.length_drop
        obtain ⟨hm0, hmn, hmw⟩ : 0 < ((window c).take n).length ∧ ((window c).take n).length ≤ n ∧
            ((window c).take n).length ≤ (window c).length := by
          rw [List.length_take]; omega
        have ih' := ih (n - ((window c).take n).length) (out ++ (window c).take n)
          (h.fwd hB hm0 (by omega))
          (by show (a.rest.drop _).length < f; rw [List.length_drop]; omega)
        refine ⟨ih'.1.trans ?_, ih'.2.weaken ?_ rfl fun _ => rfl⟩
        · rw [List.append_assoc, ← h.rest, remaining, take_chunk]
        · show (a.rest.drop _).drop _ = a.rest.drop n
          rw [List.drop_drop, Nat.add_sub_cancel' hmn]

theorem copy_sim {B c a} (hB : 2 ≤ B) (h : Sim B c a) (n : Nat) :
    (copy B c n).1 = (a.copy n).1 ∧ Sim B (copy B c n).2 (a.copy n).2 := by
  have hsp := copyF_sim hB (c.avail + 1) n [] h.noUnget (by rw [avail_eq, h.rest]; exact Nat.lt_succ_self _)
  unfold copy AS.copy
  rw [takeWhile_nonul _ h.nonul]
  exact ⟨hsp.1, hsp.2.weaken (by simp) rfl (by simp)⟩


theorem init_sim {B} (hB : 2 ≤ B) (input : List Nat) (hn : ∀ c ∈ input, c ≠ 0) :
    Sim B (BS.init B input) (AS.init input) := by
  unfold BS.init underflow
  have hv := viol_false (v := false) rfl (show ¬ ([] : List Nat).length < 0 from Nat.lt_irrefl 0)
    (show ¬ B < 0 + (input.take (B + 1 - (1 + 0))).length by have := List.length_take_le (B + 1 - (1 + 0)) input; omega)
  simp only [Bool.not_true, Bool.false_eq_true, ↓reduceIte, Nat.lt_irrefl, decide_false, Bool.and_false, hv]
  exact (Inv.refill (keep := []) rfl rfl rfl rfl (Nat.le_refl 0) (by omega) (by simp)
    (fun _ h => nomatch h) hn).elim fun h1 h2 => ⟨h1, h2, rfl, fun e => nomatch e⟩

-- the operations stay folded: `step` only projects their results
attribute [local irreducible] matchInt AS.matchInt skipWs AS.skipWs in
theorem step_sim {B c a} (hB : 2 ≤ B) (h : Sim B c a) (op : Op) (hadm : Adm B a op) :
    (step B c op).1 = (a.step op).1 ∧ Sim B (step B c op).2 (a.step op).2 := by
  cases op with
  | peek => exact ⟨congrArg Obs.char h.peek, h⟩
  | get => exact (get_sim hB h).imp (congrArg Obs.char) id
  | unget x => exact (unget_sim h hadm.1 x hadm.2).imp (congrArg Obs.bool) id
  | skipWs => exact ⟨rfl, skipWs_sim hB h⟩
  | matchTok w =>
    obtain ⟨r, hr, h1, h2⟩ := matchTok_sim hB h w hadm.1 hadm.2.1
    simp only [step, AS.step, hr]
    exact ⟨congrArg Obs.bool h1, h2⟩
  | matchInt n => exact (matchInt_sim hB h n).imp (congrArg Obs.int) id
  | copy n => exact (copy_sim hB h n).imp (congrArg Obs.bytes) id
  | atEnd => exact ⟨congrArg (fun x => Obs.bool (x == 0)) h.peek, h⟩
  | line => exact ⟨congrArg (fun l => Obs.nat (l % 4294967296)) h.line, h⟩

end PotasscoVerif.BufferedStream
