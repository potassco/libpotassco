/-
  The smodels round trip (C05).  The text `SmodelsOutput` writes for a step of the supported fragment is a word of the strict smodels
  grammar of Props/C07b.lean denoting a canonical form of what was written, so the completeness theorems of C07 read it back; and
  `SmodelsOutput` on a step, in closed form.
-/
import PotasscoVerif.Lemmas.AspifRoundTrip2
import PotasscoVerif.Props.C07b
import PotasscoVerif.Model.SmodelsOut
namespace PotasscoVerif.SmRT
open PotasscoVerif PotasscoVerif.AspifOut PotasscoVerif.AspifIn PotasscoVerif.CharStream PotasscoVerif.Decimal
open PotasscoVerif.AspifRT PotasscoVerif.SmodelsOut PotasscoVerif.SmodelsIn
open PotasscoVerif.BufferedStream (isWs isDigit I64MAX)


def canonB (b : List Int) : List Int := ordered (fun (l : Int) => decide (l < 0)) b
/-- weighted literals as they come back: negatives first, a negative weight as its absolute value on the complement -/
def canonW (ws : List (Int × Int)) : List (Int × Int) :=
  (ordered (fun (p : Int × Int) => decide (smLit p < 0)) ws).map (fun p => (smLit p, (p.2.natAbs : Int)))

theorem ordered_perm {α : Type} (p : α → Bool) (l : List α) : (ordered p l).Perm l := List.filter_append_perm p l
theorem mem_ordered {α : Type} (p : α → Bool) (l : List α) (x : α) : x ∈ ordered p l → x ∈ l := (ordered_perm p l).mem_iff.mp
theorem canonW_nonneg (ws : List (Int × Int)) (h : ∀ p ∈ ws, 0 ≤ p.2) :
    canonW ws = ordered (fun (p : Int × Int) => decide (p.1 < 0)) ws := by
  have hs : ∀ p ∈ ws, smLit p = p.1 := fun p hp => if_pos (h p hp)
  have e : ordered (fun (p : Int × Int) => decide (smLit p < 0)) ws = ordered (fun (p : Int × Int) => decide (p.1 < 0)) ws := by
    unfold ordered
    congr 1 <;> exact List.filter_congr fun p hp => by simp only [hs p hp]
  rw [canonW, e]
  refine (List.map_congr_left (fun p hp => ?_)).trans (List.map_id _)
  have hp := mem_ordered _ _ _ hp
  exact Prod.ext (hs p hp) (Int.natAbs_of_nonneg (h p hp))


theorem signed_zero (l : List Nat) : signed 0 l = l.map (fun (a : Nat) => (a : Int)) := by
  induction l with
  | nil => rfl
  | cons a r ih => simp [signed, ih]

theorem signed_append (xs ys : List Nat) : signed xs.length (xs ++ ys) = xs.map (fun (a : Nat) => -(a : Int)) ++ signed 0 ys := by
  induction xs with
  | nil => simp
  | cons a r ih => simp [signed, ih]

theorem signed_ordered {α : Type} (g : α → Int) (l : List α) :
    signed (l.filter (fun x => decide (g x < 0))).length ((ordered (fun x => decide (g x < 0)) l).map (fun x => (g x).natAbs)) =
    (ordered (fun x => decide (g x < 0)) l).map g := by
  unfold ordered
  rw [List.map_append, List.map_append]
  have h := signed_append ((l.filter (fun x => decide (g x < 0))).map (fun x => (g x).natAbs)) ((l.filter (fun x => !decide (g x < 0))).map (fun x => (g x).natAbs))
  rw [List.length_map] at h
  rw [h, signed_zero, List.map_map, List.map_map]
  congr 1 <;> refine List.map_congr_left (fun x hx => ?_)
  · have : g x < 0 := by simpa using (List.mem_filter.mp hx).2
    simp only [Function.comp]; omega
  · have : ¬ g x < 0 := by simpa using (List.mem_filter.mp hx).2
    simp only [Function.comp]; omega

theorem litOk_atom {l : Int} (h : litOk l) : atomOk l.natAbs := by unfold litOk at h; unfold atomOk; omega

theorem smLit_natAbs (p : Int × Int) : (smLit p).natAbs = p.1.natAbs := by
  unfold smLit; split <;> simp

theorem smLit_ok {p : Int × Int} (h : litOk p.1) : litOk (smLit p) := by
  unfold litOk at *; rw [smLit_natAbs]; unfold smLit; split <;> omega

theorem signed_smLit (ws : List (Int × Int)) :
    signed (ws.filter (fun p => decide (smLit p < 0))).length ((ordered (fun p => decide (smLit p < 0)) ws).map (fun p => p.1.natAbs)) =
    (ordered (fun p => decide (smLit p < 0)) ws).map smLit := by
  rw [← signed_ordered smLit ws]
  exact congrArg _ (List.map_congr_left (fun p _ => (smLit_natAbs p).symm))

section
open PotasscoVerif.AspifLang PotasscoVerif.C07

theorem repL_ordered {α : Type} (L : Lang Nat) (p : α → Bool) (l : List α) (g : α → Nat) (h : ∀ y ∈ l, L (addN (g y)) (g y)) :
    repL L l.length (natsSp ((ordered p l).map g)) ((ordered p l).map g) := by
  have := repL_enc L addN ((ordered p l).map g) fun x hx => by
    obtain ⟨y, hy, rfl⟩ := List.mem_map.mp hx; exact h y (mem_ordered _ _ _ hy)
  rwa [List.length_map, (ordered_perm p l).length_eq] at this

theorem seq_ret_eq {α β : Type} {L1 : Lang α} (f : α → β) {w : List Nat} {x : α} {y : β} (h1 : L1 w x) (e : y = f x) : seq L1 (fun x => ret (f x)) w y :=
  e ▸ seq_ret f h1

theorem bodyL_addBody (b : List Int) (hl : lenOk b) (hb : ∀ l ∈ b, litOk l) : bodyL true (addBody b) (canonB b) := by
  have hr := repL_ordered (atomL true) (fun (l : Int) => decide (l < 0)) b Int.natAbs fun y hy => atomL_addN (litOk_atom (hb y hy))
  unfold addBody; simp only [List.append_assoc]
  refine seq_intro (posL_addN hl) (seq_intro (posL_addN (Nat.le_trans (List.length_filter_le _ _) hl)) (seq_ret_eq _ hr ?_))
  have := signed_ordered (fun (x : Int) => x) b
  rw [List.map_id'] at this; exact this.symm

theorem sumL_addSum (bnd : Nat) (ws : List (Int × Int)) (hb : bnd ≤ 2147483647) (hl : lenOk ws)
    (hws : ∀ p ∈ ws, litOk p.1 ∧ p.2.natAbs ≤ 2147483647) : sumL true true (addSum (bnd : Int) ws false) ((bnd : Int), canonW ws) := by
  have ha := repL_ordered (atomL true) (fun p => decide (smLit p < 0)) ws (fun p => p.1.natAbs) fun y hy => atomL_addN (litOk_atom (hws y hy).1)
  have hw := repL_ordered (numN true true I32MAX.toNat) (fun p => decide (smLit p < 0)) ws (fun p => p.2.natAbs) fun y hy => numN_addN (hws y hy).2
  simp only [addSum, Bool.false_eq_true, ↓reduceIte, List.append_nil, List.append_assoc, Int.toNat_natCast]
  refine seq_intro (posL_addN (by unfold U32MAX; omega)) (seq_intro (posL_addN hl) (seq_intro (posL_addN (Nat.le_trans (List.length_filter_le _ _) hl)) ?_))
  have hnb : ¬ (bnd > I32MAX.toNat) := Nat.not_lt.mpr hb
  simp only [↓reduceIte, hnb]
  refine seq_intro ha (seq_ret_eq _ hw (Prod.ext rfl ?_))
  rw [signed_smLit, List.map_map, List.zip_map']; rfl

theorem sumL_addSum_card (bnd : Nat) (ws : List (Int × Int)) (hb : bnd ≤ 2147483647) (hl : lenOk ws)
    (hws : ∀ p ∈ ws, litOk p.1 ∧ p.2 = 1) : sumL false true (addSum (bnd : Int) ws true) ((bnd : Int), canonW ws) := by
  have ha := repL_ordered (atomL true) (fun p => decide (smLit p < 0)) ws (fun p => p.1.natAbs) fun y hy => atomL_addN (litOk_atom (hws y hy).1)
  simp only [addSum, ↓reduceIte, List.append_nil, List.nil_append, List.append_assoc, Int.toNat_natCast]
  refine seq_intro (posL_addN hl) (seq_intro (posL_addN (Nat.le_trans (List.length_filter_le _ _) hl)) (seq_intro (posL_addN (by unfold U32MAX; omega)) ?_))
  have hnb : ¬ (bnd > I32MAX.toNat) := Nat.not_lt.mpr hb
  simp only [Bool.false_eq_true, ↓reduceIte, hnb]
  refine seq_ret_eq _ ha (Prod.ext rfl ?_)
  rw [signed_smLit, List.map_map]
  exact List.map_congr_left (fun p hp => by simp [(hws p (mem_ordered _ _ _ hp)).2])
end


/-- the calls of the rule section that `SmodelsOutput` writes without error, arguments in range -/
def RuleOk (ext : Bool) (f : Nat) : Call → Prop
  | .rule ht head body => ht ≤ 1 ∧ (∀ a ∈ head, atomOk a) ∧ head.length ≤ 2147483647 ∧ lenOk body ∧ (∀ l ∈ body, litOk l) ∧
      (head = [] → ht = 1 ∨ atomOk f)
  | .sumRule ht head b ws => ht = 0 ∧ (head = [] → atomOk f) ∧ head.length ≤ 1 ∧ (∀ a ∈ head, atomOk a) ∧ (0 ≤ b ∧ b ≤ 2147483647) ∧
      lenOk ws ∧ ∀ p ∈ ws, litOk p.1 ∧ 0 ≤ p.2 ∧ p.2 ≤ 2147483647
  | .minimize _ ws => lenOk ws ∧ ∀ p ∈ ws, litOk p.1 ∧ p.2.natAbs ≤ 2147483647
  | .external a v => ext = true ∧ atomOk a ∧ v ≤ 3
  | _ => False

def isCard (ws : List (Int × Int)) : Bool := ws.all (fun p => p.2 == 1)

/-- the rule type number written for a call (0: nothing is written) -/
def ruleRT : Call → Nat
  | .rule ht head _ => if head.isEmpty then (if ht = 1 then 0 else 1) else if ht = 1 then 3 else if head.length = 1 then 1 else 8
  | .sumRule _ _ _ ws => if isCard ws then 2 else 5
  | .minimize _ _ => 6
  | .external _ v => if v ≠ 3 then 91 else 92
  | _ => 0

def ruleFields (f : Nat) : Call → List Nat
  | .rule ht head body => (if head.isEmpty then addHead ht [f] else addHead ht head) ++ addBody body
  | .sumRule ht head b ws => addHead ht (if head.isEmpty then [f] else head) ++ addSum b ws (isCard ws)
  | .minimize _ ws => addSum 0 ws false
  | .external a v => if v ≠ 3 then addN a ++ addN ((v ^^^ 3) - 1) else addN a
  | _ => []

def ruleText (f : Nat) (c : Call) : List Nat := if ruleRT c = 0 then [] else printNat (ruleRT c) ++ ruleFields f c ++ nl

def usesFalse : Call → Bool
  | .rule ht head _ => head.isEmpty && ht != 1
  | .sumRule _ head _ _ => head.isEmpty
  | _ => false

/-- what comes back for a call of the rule section; `prio` is the running minimize priority of the step -/
def canonRule (f prio : Nat) : Call → Option Call × Nat
  | .rule ht head body =>
    if head.isEmpty then (if ht = 1 then (none, prio) else (some (.rule 0 [f] (canonB body)), prio))
    else (some (.rule ht head (canonB body)), prio)
  | .sumRule _ head b ws => (some (.sumRule 0 (if head.isEmpty then [f] else head) b (canonW ws)), prio)
  | .minimize _ ws => (some (.minimize (prio : Int) (canonW ws)), prio + 1)
  | .external a v => (some (.external a v), prio)
  | _ => (none, prio)

theorem canonRule_none (f prio : Nat) (c : Call) (h0 : ruleRT c = 0) : canonRule f prio c = (none, prio) := by
  cases c with
  | rule ht head body =>
    cases head with
    | nil =>
      by_cases h1 : ht = 1
      · simp [canonRule, h1]
      · simp [ruleRT, h1] at h0
    | cons x r =>
      by_cases h1 : ht = 1
      · simp [ruleRT, h1] at h0
      · cases r <;> simp [ruleRT, h1] at h0
  | sumRule ht head b ws => simp only [ruleRT] at h0; split at h0 <;> simp at h0
  | minimize p ws => simp [ruleRT] at h0
  | external x v => simp only [ruleRT] at h0; split at h0 <;> simp at h0
  | _ => rfl

theorem addHead_one (h : Nat) : addHead 0 [h] = addN h := by simp [addHead, natsSp]

section
open PotasscoVerif.AspifLang PotasscoVerif.C07
theorem ruleL_fields (ext : Bool) (f prio : Nat) (c : Call) (hc : RuleOk ext f c) (h0 : ruleRT c ≠ 0) :
    ruleL ext (ruleRT c) prio true (ruleFields f c) (canonRule f prio c) := by
  unfold RuleOk at hc
  split at hc
  · rename_i ht head body
    obtain ⟨hht, hh, hhl, hlb, hb, hf⟩ := hc
    have hbody := bodyL_addBody body hlb hb
    have basic : ∀ h, atomOk h → ruleL ext 1 prio true (addHead 0 [h] ++ addBody body) (some (.rule 0 [h] (canonB body)), prio) :=
      fun h hok => addHead_one h ▸ seq_intro (atomL_addN hok) (seq_ret _ hbody)
    have counted : ∀ rt, rt = 3 ∨ rt = 8 → ∀ ht', (ht' = 1 ∨ head.length > 1) → head ≠ [] →
        ruleL ext rt prio true (addHead ht' head ++ addBody body) (some (.rule (if rt = 3 then 1 else 0) head (canonB body)), prio) := by
      intro rt hrt ht' hcnt hne
      have hlen : atomOk head.length := ⟨List.length_pos_iff.mpr hne, hhl⟩
      rw [addHead, if_pos hcnt, List.append_assoc]
      rcases hrt with rfl | rfl <;> exact seq_intro (atomL_addN hlen) (seq_intro (repL_enc _ addN head fun x hx => atomL_addN (hh x hx)) (seq_ret _ hbody))
    obtain rfl | rfl : ht = 0 ∨ ht = 1 := by omega
    · rcases head with _ | ⟨x, _ | ⟨y, r⟩⟩
      · exact basic f ((hf rfl).resolve_left (by decide))
      · exact basic x (hh x List.mem_cons_self)
      · exact counted 8 (.inr rfl) 0 (.inr (by simp)) (by simp)
    · rcases head with _ | ⟨x, r⟩
      · exact absurd rfl h0
      · exact counted 3 (.inl rfl) 1 (.inl rfl) (by simp)
  · rename_i ht head b ws
    obtain ⟨rfl, hf, hlen, hh, hb, hlw, hws⟩ := hc
    obtain ⟨h, hh1, hok⟩ : ∃ h, (if head.isEmpty then [f] else head) = [h] ∧ atomOk h := by
      rcases head with _ | ⟨x, _ | ⟨y, r⟩⟩
      · exact ⟨f, rfl, hf rfl⟩
      · exact ⟨x, rfl, hh x List.mem_cons_self⟩
      · simp at hlen
    obtain ⟨n, rfl⟩ := Int.eq_ofNat_of_zero_le hb.1
    cases hcard : isCard ws <;> simp only [ruleRT, ruleFields, canonRule, hh1, addHead_one, hcard, Bool.false_eq_true, ↓reduceIte]
    · exact seq_intro (atomL_addN hok) (seq_ret (fun r : Int × List (Int × Int) => (some (Call.sumRule 0 [h] r.1 r.2), prio))
        (sumL_addSum n ws (by omega) hlw (fun p hp => ⟨(hws p hp).1, by have := (hws p hp).2; omega⟩)))
    · exact seq_intro (atomL_addN hok) (seq_ret (fun r : Int × List (Int × Int) => (some (Call.sumRule 0 [h] r.1 r.2), prio))
        (sumL_addSum_card n ws (by omega) hlw (fun p hp => ⟨(hws p hp).1, by simpa using List.all_eq_true.mp hcard p hp⟩)))
  · rename_i p ws
    exact seq_ret (fun r : Int × List (Int × Int) => (some (Call.minimize prio r.2), prio + 1)) (sumL_addSum 0 ws (by omega) hc.1 hc.2)
  · rename_i x v
    obtain ⟨rfl, hx, hv⟩ := hc
    have h91 : ∀ u : Nat, u ≤ 2 → ruleL true 91 prio true (addN x ++ addN u) (some (.external x ((u ^^^ 3) - 1)), prio) := fun u hu =>
      seq_intro (atomL_addN hx) (seq_ret (fun u : Nat => (some (Call.external x ((u ^^^ 3) - 1)), prio))
        (numN_addN hu))
    -- the value code `(v ^^^ 3) - 1` is its own inverse on 0, 1, 2
    obtain rfl | rfl | rfl | rfl : v = 0 ∨ v = 1 ∨ v = 2 ∨ v = 3 := by omega
    · exact h91 2 (by decide)
    · exact h91 1 (by decide)
    · exact h91 0 (by decide)
    · exact seq_ret (fun h : Nat => (some (Call.external h 3), prio)) (atomL_addN hx)
  · exact hc.elim
end

theorem ruleOf_90 (prio : Nat) (a : AS) : ruleOf true 90 prio a = (do
    let (z, a) ← pos a
    if z ≠ 0 then throw a.line
    pure ((none, prio), a)) := rfl

theorem ruleLine_rt (ext : Bool) (f prio : Nat) (c : Call) (hc : RuleOk ext f c) (h0 : ruleRT c ≠ 0) (a : AS) (k : List Nat)
    (hr : a.rest = ruleFields f c ++ (nl ++ k)) :
    ∃ a', ruleOf ext (ruleRT c) prio a = .ok (canonRule f prio c, a') ∧ a'.rest = nl ++ k := by
  exact (C07.Spec.ruleOf ext (ruleRT c) prio).complete _ _ a _ (ruleL_fields ext f prio c hc h0) hr (sp_nl k).nds


def rulesText (f : Nat) (rs : List Call) : List Nat := (rs.map (ruleText f)).flatten

theorem rulesText_cons (f : Nat) (c : Call) (rs : List Call) : rulesText f (c :: rs) = ruleText f c ++ rulesText f rs := rfl

def canonRules (f : Nat) : Nat → List Call → List Call
  | _, [] => []
  | prio, c :: cs => match canonRule f prio c with
    | (some c', p') => c' :: canonRules f p' cs
    | (none, p') => canonRules f p' cs

theorem canonRules_cons (f prio : Nat) (c : Call) (cs : List Call) :
    canonRules f prio (c :: cs) = (canonRule f prio c).1.toList ++ canonRules f (canonRule f prio c).2 cs := by
  rw [canonRules]; rcases canonRule f prio c with ⟨_ | c', p'⟩ <;> rfl

/-- only the types 91 and 92 of external directives start with `9` -/
theorem ruleRT_mem (c : Call) : ruleRT c ∈ [0, 1, 2, 3, 5, 6, 8] ∨ ((∃ a v, c = .external a v) ∧ ruleRT c ∈ [91, 92]) := by
  unfold ruleRT
  split
  · left; (repeat' split) <;> decide
  · left; split <;> decide
  · left; decide
  · right; exact ⟨⟨_, _, rfl⟩, by split <;> decide⟩
  · left; decide

theorem ruleRT_le (c : Call) : ruleRT c ≤ U32MAX := by
  have : ∀ n ∈ [0, 1, 2, 3, 5, 6, 8] ++ [91, 92], n ≤ U32MAX := by decide
  exact this _ (List.mem_append.mpr ((ruleRT_mem c).imp id And.right))

section
open PotasscoVerif.AspifLang PotasscoVerif.C07
theorem rules_text (ext : Bool) (f : Nat) : ∀ (rs : List Call) (lead : Bool) (prio : Nat) (ws : List Nat), (∀ c ∈ rs, RuleOk ext f c) → Filler ws →
    (lead = true → ws ≠ []) → Rules true ext lead prio (ws ++ (rulesText f rs ++ str "0")) (canonRules f prio rs)
  | [], lead, prio, ws, _, hws, hl => .done (numN_zero lead _ hws hl)
  | c :: rs, lead, prio, ws, hok, hws, hl => by
    obtain ⟨hc, hrs⟩ := List.forall_mem_cons.mp hok
    rw [rulesText_cons, canonRules_cons, ruleText]
    by_cases h0 : ruleRT c = 0
    · rw [if_pos h0, canonRule_none f prio c h0]
      exact rules_text ext f rs lead prio ws hrs hws hl
    · rw [if_neg h0]
      simp only [List.append_assoc]
      rw [← List.append_assoc]
      exact .rule (numN_printNat lead (ruleRT_le c) hws hl) h0
        (ruleL_fields ext f prio c hc h0) (rules_text ext f rs true _ nl hrs nl_ws (fun _ => List.cons_ne_nil _ _))
end

theorem rulesLoop_rt (ext : Bool) (f : Nat) : ∀ (rs : List Call) (fuel : Nat) (a : AS) (prio : Nat) (acc : List Call) (ws k : List Nat),
    a.rest.length < fuel → (∀ c ∈ rs, RuleOk ext f c) → (∀ x ∈ ws, isWs x = true) →
    a.rest = ws ++ (rulesText f rs ++ (str "0" ++ nl ++ k)) →
    ∃ a', rulesLoop ext fuel a prio acc = (acc.reverse ++ canonRules f prio rs, .ok a') ∧ a'.rest = nl ++ k := by
  intro rs fuel a prio acc ws k hf hok hws hr
  have e : a.rest = ws ++ (rulesText f rs ++ str "0") ++ (nl ++ k) := by rw [hr]; simp only [List.append_assoc]
  exact C07.rulesLoop_complete ext false prio _ _ (rules_text ext f rs false prio ws hok hws nofun) fuel a acc _
    (by rw [e] at hf; rw [List.length_append] at hf; omega) e (sp_nl k).nds


def OutOk : Call → Prop
  | .output name [l] => 0 < l ∧ l ≤ 2147483647 ∧ ∀ c ∈ name, c ≠ 0 ∧ c ≠ 10 ∧ c ≠ 13
  | _ => False

def symText : Call → List Nat
  | .output name [l] => printNat l.toNat ++ sp ++ name ++ nl
  | _ => []

def symsText (outs : List Call) : List Nat := (outs.map symText).flatten

theorem OutOk.inv {c : Call} (h : OutOk c) : ∃ name n, c = .output name [((n : Nat) : Int)] ∧ 0 < n ∧ n ≤ 2147483647 ∧ C07.NameOk name := by
  unfold OutOk at h
  split at h
  · obtain ⟨h0, h1, hn⟩ := h
    obtain ⟨n, rfl⟩ := Int.eq_ofNat_of_zero_le (Int.le_of_lt h0)
    exact ⟨_, n, rfl, by omega, by omega, hn⟩
  · exact h.elim

theorem symsText_cons (c : Call) (outs : List Call) : symsText (c :: outs) = symText c ++ symsText outs := rfl

section
open PotasscoVerif.AspifLang PotasscoVerif.C07
theorem syms_text : ∀ (outs : List Call) (lead : Bool) (ws : List Nat), (∀ c ∈ outs, OutOk c) → Filler ws → (lead = true → ws ≠ []) →
    Syms true lead (ws ++ (symsText outs ++ str "0")) outs
  | [], lead, ws, _, hws, hl => .done (numN_zero lead _ hws hl)
  | c :: outs, lead, ws, hok, hws, hl => by
    obtain ⟨hc, houts⟩ := List.forall_mem_cons.mp hok
    obtain ⟨name, n, rfl, hn0, hn1, hname⟩ := hc.inv
    simp only [symsText_cons, symText, Int.toNat_natCast, List.append_assoc]
    rw [← List.append_assoc]
    exact .sym (numN_printNat lead hn1 hws hl) (Nat.ne_of_gt hn0) rfl hname (.inl rfl)
      (syms_text outs false [] houts .nil nofun)
end

theorem symbolsLoop_rt : ∀ (outs : List Call) (fuel : Nat) (a : AS) (acc : List Call) (ws k : List Nat), outs.length < fuel →
    (∀ c ∈ outs, OutOk c) → (∀ x ∈ ws, isWs x = true) → a.rest = ws ++ (symsText outs ++ (str "0" ++ nl ++ k)) →
    ∃ a', symbolsLoop fuel a acc = (acc.reverse ++ outs, .ok a') ∧ a'.rest = nl ++ k := by
  intro outs fuel a acc ws k hf hok hws hr
  exact C07.symbolsLoop_complete_fuel false _ _ (syms_text outs false ws hok hws nofun) fuel a acc _ hf
    (by rw [hr]; simp only [List.append_assoc]) (sp_nl k).nds


def linesOf (xs : List Nat) : List Nat := (xs.map ln).flatten

theorem linesOf_cons (x : Nat) (xs : List Nat) : linesOf (x :: xs) = printNat x ++ (nl ++ linesOf xs) := by simp [linesOf, ln]

section
open PotasscoVerif.AspifLang PotasscoVerif.C07
theorem atoms0_lines (mk : Nat → Call) : ∀ (xs : List Nat) (lead : Bool) (ws : List Nat), (∀ x ∈ xs, atomOk x) → Filler ws → (lead = true → ws ≠ []) →
    Atoms0 true mk lead (ws ++ (linesOf xs ++ str "0")) (xs.map mk)
  | [], lead, ws, _, hws, hl => .done (numN_zero lead _ hws hl)
  | x :: xs, lead, ws, hok, hws, hl => by
    obtain ⟨hx, hok⟩ := List.forall_mem_cons.mp hok
    simp only [linesOf_cons, List.append_assoc]
    rw [← List.append_assoc]
    exact .atom (numN_printNat lead hx.2 hws hl) (Nat.ne_of_gt hx.1)
      (atoms0_lines mk xs true nl hok nl_ws (fun _ => List.cons_ne_nil _ _))

theorem computeSec_lines (tok : List Nat) (val : Bool) (xs ws : List Nat) (hxs : ∀ x ∈ xs, atomOk x) (hws : Filler ws) :
    ComputeSec true tok val (ws ++ (tok ++ (nl ++ ([] ++ (linesOf xs ++ str "0"))))) (xs.map (mkCompute val)) :=
  ⟨ws, nl, _, rfl, hws, .inl rfl, atoms0_lines (mkCompute val) xs false [] hxs .nil nofun⟩
end

theorem compute_rt (tok : List Nat) (val : Bool) (xs : List Nat) (a : AS) (ws k : List Nat) (hws : ∀ x ∈ ws, isWs x = true)
    (htok : ∃ c r, tok = c :: r ∧ isWs c = false) (hxs : ∀ x ∈ xs, atomOk x)
    (hr : a.rest = ws ++ (tok ++ (nl ++ (linesOf xs ++ (str "0" ++ nl ++ k))))) :
    ∃ a', compute tok val a = (xs.map (fun x => .rule 0 [] [if val then -(x : Int) else (x : Int)]), .ok a') ∧ a'.rest = nl ++ k := by
  exact C07.compute_complete tok htok val _ _ a _ (computeSec_lines tok val xs ws hxs hws)
    (by rw [hr]; simp only [List.append_assoc, List.nil_append]) (sp_nl k).nds


/-- a step as the writer's ordering admits it: rule section, symbol table, at most one compute statement -/
structure Step where
  rs   : List Call
  outs : List Call
  asm  : Option (List Int)

def asmCalls : Option (List Int) → List Call
  | some l => [.assume l]
  | none => []

def Step.calls (s : Step) : List Call := [.beginStep] ++ s.rs ++ s.outs ++ asmCalls s.asm ++ [.endStep]

structure StepOk (ext : Bool) (f : Nat) (s : Step) : Prop where
  rules : ∀ c ∈ s.rs, RuleOk ext f c
  outs  : ∀ c ∈ s.outs, OutOk c
  asm   : ∀ l, s.asm = some l → ∀ x ∈ l, litOk x

def Step.lits (s : Step) : List Int := s.asm.getD []
def Step.fHead (s : Step) : Bool := s.rs.any usesFalse
/-- atoms listed under `B+` and under `B-` (the false atom last, when an integrity constraint used it) -/
def Step.bPlus (s : Step) : List Nat := (s.lits.filter (· > 0)).map Int.natAbs
def Step.bMinus (f : Nat) (s : Step) : List Nat := (s.lits.filter (· < 0)).map Int.natAbs ++ (if s.fHead && f != 0 then [f] else [])

/-- symbol table, compute statement and model count of a step, followed by `k` -/
def tailText (f : Nat) (s : Step) (k : List Nat) : List Nat :=
  symsText s.outs ++ (str "0" ++ nl ++ ([66, 43] ++ (nl ++ (linesOf s.bPlus ++ (str "0" ++ nl ++ ([66, 45] ++ (nl ++
    (linesOf (s.bMinus f) ++ (str "0" ++ nl ++ (str "1" ++ nl ++ k))))))))))

def stepTextK (ext inc : Bool) (f : Nat) (s : Step) (k : List Nat) : List Nat :=
  (if ext && inc then str "90 0" ++ nl else []) ++ (rulesText f s.rs ++ (str "0" ++ nl ++ tailText f s k))

def stepText (ext inc : Bool) (f : Nat) (s : Step) : List Nat := stepTextK ext inc f s []

theorem stepText_append (ext inc : Bool) (f : Nat) (s : Step) (k : List Nat) : stepText ext inc f s ++ k = stepTextK ext inc f s k := by
  simp [stepText, stepTextK, tailText, List.append_assoc]

/-- what reading a written step delivers between `beginStep` and `endStep` -/
def canonStep (f : Nat) (s : Step) : List Call :=
  canonRules f 0 s.rs ++ s.outs ++ s.bPlus.map (fun x => .rule 0 [] [-(x : Int)]) ++ (s.bMinus f).map (fun x => .rule 0 [] [(x : Int)])

theorem lits_ok (s : Step) (h : ∀ l, s.asm = some l → ∀ x ∈ l, litOk x) : ∀ x ∈ s.lits, litOk x := by
  unfold Step.lits
  cases ha : s.asm with
  | none => intro x hx; cases hx
  | some ls => exact h ls ha

theorem bPlus_ok (s : Step) (h : ∀ l, s.asm = some l → ∀ x ∈ l, litOk x) : ∀ x ∈ s.bPlus, atomOk x := by
  intro x hx
  simp only [Step.bPlus, List.mem_map, List.mem_filter] at hx
  obtain ⟨l, ⟨hl, _⟩, rfl⟩ := hx
  exact litOk_atom (lits_ok s h l hl)

theorem usesFalse_ok {ext : Bool} {f : Nat} {c : Call} (hr : RuleOk ext f c) (hu : usesFalse c = true) : atomOk f := by
  cases c with
  | rule ht head body =>
    simp only [usesFalse, Bool.and_eq_true, List.isEmpty_iff, bne_iff_ne, ne_eq] at hu
    exact (hr.2.2.2.2.2 hu.1).resolve_left hu.2
  | sumRule ht head b ws => exact hr.2.1 (List.isEmpty_iff.mp hu)
  | _ => cases hu

theorem bMinus_ok (ext : Bool) (f : Nat) (s : Step) (h : StepOk ext f s) : ∀ x ∈ s.bMinus f, atomOk x := by
  intro x hx
  simp only [Step.bMinus, List.mem_append, List.mem_map, List.mem_filter] at hx
  rcases hx with ⟨l, ⟨hl, _⟩, rfl⟩ | hx
  · exact litOk_atom (lits_ok s h.asm l hl)
  · split at hx
    · rename_i hc
      obtain rfl := List.mem_singleton.mp hx
      obtain ⟨c, hc1, hc2⟩ := List.any_eq_true.mp (Bool.and_eq_true _ _ ▸ hc).1
      exact usesFalse_ok (h.rules c hc1) hc2
    · cases hx

theorem str1 : str "1" = printNat 1 := by decide +kernel
theorem str_marker : str "90 0" = printNat 90 ++ addN 0 := by decide +kernel

section
open PotasscoVerif.AspifLang PotasscoVerif.C07
theorem step_strict (ext inc : Bool) (f : Nat) (s : Step) (h : StepOk ext f s) (k : List Nat) :
    ∃ w, stepTextK ext inc f s k = w ++ (nl ++ k) ∧ C07.Step true ext w (canonStep f s) := by
  have hnl : nl ≠ [] := List.cons_ne_nil _ _
  have h1 : Rules true ext false 0 ((if ext && inc then str "90 0" ++ nl else []) ++ (rulesText f s.rs ++ str "0")) (canonRules f 0 s.rs) := by
    cases hi : ext && inc
    · exact rules_text ext f s.rs false 0 [] h.rules .nil nofun
    · obtain rfl : ext = true := (Bool.and_eq_true _ _ ▸ hi).1
      simp only [↓reduceIte, str_marker, List.append_assoc]
      -- the marker line `90 0` is a rule of the grammar that delivers nothing
      exact .rule (w1 := [] ++ printNat 90) (oc := none) (numN_printNat false (by decide) .nil nofun) (by decide)
        ⟨addN 0, [], 0, (List.append_nil _).symm, posL_addN (by decide), rfl, rfl⟩ (rules_text true f s.rs true 0 nl h.rules nl_ws (fun _ => hnl))
  have h2 := syms_text s.outs true nl h.outs nl_ws (fun _ => hnl)
  have h3 := computeSec_lines kwBp true s.bPlus nl (bPlus_ok s h.asm) nl_ws
  have h4 := computeSec_lines kwBm false (s.bMinus f) nl (bMinus_ok ext f s h) nl_ws
  have h5 : ExtraSec true (nl ++ printNat 1) [] := .inr ⟨1, numN_printNat true (by decide) nl_ws (fun _ => hnl), rfl⟩
  refine ⟨_, ?_, _, _, _, _, _, _, _, _, _, _, rfl, (List.append_nil _).symm, h1, h2, h3, h4, h5⟩
  simp only [stepTextK, tailText, kwBp, kwBm, ← str1, List.append_assoc, List.nil_append]
end

theorem step_rt (ext inc : Bool) (f : Nat) (s : Step) (h : StepOk ext f s) (hinc : inc = true → ext = true) (a : AS) (k : List Nat)
    (hr : a.rest = stepText ext inc f s ++ k) :
    ∃ a', SmodelsIn.step ext a = (canonStep f s, .ok a') ∧ a'.rest = nl ++ k := by
  obtain ⟨w, e, hw⟩ := step_strict ext inc f s h k
  exact C07.step_complete ext w _ a _ hw (by rw [hr, stepText_append, e]) (sp_nl k).nds


theorem str6 : str "6" = printNat 6 := by decide +kernel
theorem str91 : str "91" = printNat 91 := by decide +kernel
theorem str92 : str "92" = printNat 92 := by decide +kernel

theorem step_rule (ext : Bool) (f : Nat) (w : W) (c : Call) (hs : w.sec = 0) (hc : RuleOk ext f c) :
    SmodelsOut.step ext f w c = .ok ({ w with fHead := w.fHead || usesFalse c }.put (ruleText f c)) := by
  obtain ⟨wo, wsec, wfh, winc⟩ := w
  subst hs
  cases c with
  | rule ht head body =>
    obtain ⟨hht, _, _, _, _, hf⟩ := hc
    simp only [SmodelsOut.step, ne_eq, not_true_eq_false, ↓reduceIte, ruleText, ruleRT, ruleFields, usesFalse, W.put]
    by_cases hh : head.isEmpty = true
    · by_cases h1 : ht = 1
      · simp [hh, h1]
      · have hf0 : f ≠ 0 := Nat.ne_of_gt ((hf (List.isEmpty_iff.mp hh)).resolve_left h1).1
        simp [hh, h1, hf0, str1]
    · have hrt : (if ht = 1 then 3 else if head.length = 1 then 1 else 8) ≠ 0 := by (repeat' split) <;> decide
      simp [hh, hrt]
  | sumRule ht head b ws =>
    obtain ⟨rfl, hf, hlen, _, hb, _, _⟩ := hc
    have hb' : ¬ b < 0 := by omega
    have hc : (ws.all fun p => p.2 == 1) = isCard ws := rfl
    have hrt : (if isCard ws = true then 2 else 5) ≠ 0 := by split <;> decide
    simp only [SmodelsOut.step, ne_eq, not_true_eq_false, ↓reduceIte, ruleText, ruleRT, ruleFields, usesFalse, W.put, hc, hrt, hb', or_false,
      Nat.zero_ne_one, false_or]
    rcases head with _ | ⟨x, _ | ⟨y, r⟩⟩
    · have hf0 : f ≠ 0 := Nat.ne_of_gt (hf rfl).1
      simp [hf0]
    · simp
    · simp at hlen
  | minimize p ws => simp [SmodelsOut.step, ruleText, ruleRT, ruleFields, usesFalse, W.put, str6]
  | external a v =>
    obtain ⟨rfl, _, _⟩ := hc
    by_cases hv : v = 3 <;> simp [SmodelsOut.step, hv, ruleText, ruleRT, ruleFields, usesFalse, W.put, str92, str91]
  | _ => exact hc.elim

theorem run_append (ext : Bool) (f : Nat) : ∀ (xs ys : List Call) (w : W),
    run ext f w (xs ++ ys) = (match run ext f w xs with | .error e => .error e | .ok w' => run ext f w' ys) := by
  intro xs
  induction xs with
  | nil => intro ys w; rfl
  | cons c r ih =>
    intro ys w
    simp only [List.cons_append, run]
    cases SmodelsOut.step ext f w c with
    | error e => rfl
    | ok w' => exact ih ys w'

theorem run_rules (ext : Bool) (f : Nat) : ∀ (rs : List Call) (w : W), w.sec = 0 → (∀ c ∈ rs, RuleOk ext f c) →
    run ext f w rs = .ok ({ w with fHead := w.fHead || rs.any usesFalse }.put (rulesText f rs)) := by
  intro rs
  induction rs with
  | nil => intro w _ _; simp [run, rulesText, W.put]
  | cons c r ih =>
    intro w hs hok
    obtain ⟨hc, hok⟩ := List.forall_mem_cons.mp hok
    simp only [run]
    rw [step_rule ext f w c hs hc]
    simp only
    rw [ih _ (by simp [W.put, hs]) hok]
    simp [W.put, rulesText, Bool.or_assoc]

/-- a symbol-table entry: in the rule section it first closes that section -/
theorem step_out (ext : Bool) (f : Nat) (w : W) (c : Call) (hs : w.sec ≤ 1) (hc : OutOk c) :
    SmodelsOut.step ext f w c = .ok { out := w.out ++ ((if w.sec = 0 then str "0\n" else []) ++ symText c), sec := 1, fHead := w.fHead, inc := w.inc } := by
  obtain ⟨name, n, rfl, hn0, _, _⟩ := hc.inv
  have h1 : ¬ w.sec > 1 := by omega
  have hl : ¬ (n : Int) ≤ 0 := by omega
  simp only [SmodelsOut.step, h1, hl, ↓reduceIte, symText, W.put]
  split
  · simp
  · have : w.sec = 1 := by omega
    obtain ⟨wo, wsec, wfh, winc⟩ := w
    subst this; simp

theorem run_close (ext : Bool) (f : Nat) (w : W) (hs : w.sec ≤ 1) (asm : Option (List Int)) :
    run ext f w (asmCalls asm ++ [.endStep]) = .ok { out := w.out ++ ((if w.sec = 0 then str "0\n" else []) ++
      (str "0\n" ++ (computeText f w (asm.getD []) ++ str "1\n"))), sec := 2, fHead := w.fHead, inc := w.inc } := by
  have hns : ¬ w.sec ≥ 2 := by omega
  have hlt : w.sec < 2 := by omega
  have hz : (List.replicate (2 - w.sec) (str "0\n")).flatten = (if w.sec = 0 then str "0\n" else []) ++ str "0\n" := by
    obtain h | h : w.sec = 0 ∨ w.sec = 1 := by omega
    all_goals rw [h]; simp [List.replicate]
  cases asm <;> simp [asmCalls, run, SmodelsOut.step, doAssume, hns, hlt, W.put, hz]

theorem run_syms (ext : Bool) (f : Nat) (asm : Option (List Int)) : ∀ (outs : List Call) (w : W), w.sec ≤ 1 → (∀ c ∈ outs, OutOk c) →
    run ext f w (outs ++ (asmCalls asm ++ [.endStep])) = .ok { out := w.out ++ ((if w.sec = 0 then str "0\n" else []) ++
      (symsText outs ++ (str "0\n" ++ (computeText f w (asm.getD []) ++ str "1\n")))), sec := 2, fHead := w.fHead, inc := w.inc }
  | [], w, hs, _ => by simpa [symsText] using run_close ext f w hs asm
  | c :: r, w, hs, hok => by
    obtain ⟨hc, hok⟩ := List.forall_mem_cons.mp hok
    rw [List.cons_append, run, step_out ext f w c hs hc]
    simp only
    rw [run_syms ext f asm r _ (Nat.le_refl 1) hok]
    simp [symsText_cons, computeText]

theorem str_nl : str "0\n" = str "0" ++ nl ∧ str "B+\n" = [66, 43] ++ nl ∧ str "0\nB-\n" = str "0" ++ nl ++ ([66, 45] ++ nl) ∧
    str "1\n" = str "1" ++ nl ∧ str "90 0\n" = str "90 0" ++ nl := by decide +kernel

theorem linesOf_append (xs ys : List Nat) : linesOf (xs ++ ys) = linesOf xs ++ linesOf ys := by simp [linesOf]

theorem tailText_eq (f : Nat) (s : Step) (w : W) (hf : w.fHead = s.fHead) :
    str "0\n" ++ (symsText s.outs ++ (str "0\n" ++ (computeText f w s.lits ++ str "1\n"))) = str "0" ++ nl ++ tailText f s [] := by
  obtain ⟨z0, zb, zm, z1, _⟩ := str_nl
  simp only [tailText, computeText, Step.bPlus, Step.bMinus, hf, zb, zm, z0, z1, List.append_assoc, List.map_map, linesOf, List.append_nil]
  congr 8
  split <;> simp [ln, Function.comp_def]

theorem run_body (ext : Bool) (f : Nat) (s : Step) (h : StepOk ext f s) (w : W) (hs : w.sec = 0) (hf : w.fHead = false) :
    run ext f w (s.rs ++ (s.outs ++ (asmCalls s.asm ++ [.endStep]))) =
      .ok { out := w.out ++ (rulesText f s.rs ++ (str "0" ++ nl ++ tailText f s [])), sec := 2, fHead := s.fHead, inc := w.inc } := by
  rw [run_append, run_rules ext f s.rs w hs h.rules]
  simp only
  rw [run_syms ext f s.asm s.outs _ (by simp [W.put, hs]) h.outs]
  have hfh : ({ w with fHead := w.fHead || s.rs.any usesFalse }.put (rulesText f s.rs)).fHead = s.fHead := by simp [W.put, hf, Step.fHead]
  rw [← tailText_eq f s _ hfh]
  simp [W.put, hs, hf, Step.fHead, Step.lits]

end PotasscoVerif.SmRT
