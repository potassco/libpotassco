/-
  The aspif round trip (C01), the reader's side.  The fields `AspifOutput` writes for a directive are a word of the strict
  grammar of Props/C03c.lean denoting the call (`directiveL_fields`), likewise the header line, so the completeness of the
  reader against the grammar reads them back.  The two loops are followed along the list of calls, since their fuel is
  stated in calls and steps, not in characters.
-/
import PotasscoVerif.Props.C03c
namespace PotasscoVerif.AspifRT
open PotasscoVerif PotasscoVerif.AspifOut PotasscoVerif.AspifIn PotasscoVerif.CharStream PotasscoVerif.Decimal
open PotasscoVerif.BufferedStream (isWs isDigit I64MAX)

theorem pos_addN (n : Nat) (hn : n ≤ U32MAX) (a : AS) (k : List Nat) (hr : a.rest = addN n ++ k) (hk : Sp k) :
    ∃ a', pos a = .ok (n, a') ∧ a'.rest = k :=
  AspifLang.Spec.pos.complete _ n a k (AspifLang.posL_addN hn) hr hk.nds

theorem sp_flatten {α : Type} {enc : α → List Nat} (henc : ∀ (x : α) (k : List Nat), Sp (enc x ++ k)) (l : List α) {k : List Nat} (hk : Sp k) :
    Sp ((l.map enc).flatten ++ k) := by
  cases l with
  | nil => exact hk
  | cons y r => rw [List.map_cons, List.flatten_cons, List.append_assoc]; exact henc y _

theorem rep_enc {α : Type} (p : P α) (enc : α → List Nat) (Ok : α → Prop)
    (hp : ∀ (x : α) (a : AS) (k : List Nat), Ok x → a.rest = enc x ++ k → Sp k → ∃ a', p a = .ok (x, a') ∧ a'.rest = k)
    (henc : ∀ (x : α) (k : List Nat), Sp (enc x ++ k)) :
    ∀ (l : List α) (acc : List α) (a : AS) (k : List Nat), (∀ x ∈ l, Ok x) → a.rest = (l.map enc).flatten ++ k → Sp k →
      ∃ a', rep p l.length acc a = .ok (acc.reverse ++ l, a') ∧ a'.rest = k := by
  intro l
  induction l with
  | nil => intro acc a k _ hr _; exact ⟨a, by simp [rep], hr⟩
  | cons x r ih =>
    intro acc a k hok hr hk
    rw [List.map_cons, List.flatten_cons, List.append_assoc] at hr
    obtain ⟨a1, e1, hr1⟩ := hp x a _ (hok x List.mem_cons_self) hr (sp_flatten henc r hk)
    obtain ⟨a2, e2, hr2⟩ := ih (x :: acc) a1 k (fun y hy => hok y (List.mem_cons_of_mem _ hy)) hr1 hk
    exact ⟨a2, (C04.bind_ok ..).mpr ⟨_, e1, e2.trans (by rw [List.reverse_cons, List.append_assoc]; rfl)⟩, hr2⟩

theorem counted_enc {α : Type} (p : P α) (enc : α → List Nat) (Ok : α → Prop)
    (hp : ∀ (x : α) (a : AS) (k : List Nat), Ok x → a.rest = enc x ++ k → Sp k → ∃ a', p a = .ok (x, a') ∧ a'.rest = k)
    (henc : ∀ (x : α) (k : List Nat), Sp (enc x ++ k))
    (l : List α) (hlen : l.length ≤ U32MAX) (a : AS) (k : List Nat) (hok : ∀ x ∈ l, Ok x)
    (hr : a.rest = addN l.length ++ (l.map enc).flatten ++ k) (hk : Sp k) :
    ∃ a', counted p a = .ok (l, a') ∧ a'.rest = k := by
  rw [List.append_assoc] at hr
  obtain ⟨a1, e1, hr1⟩ := pos_addN l.length hlen a _ hr (sp_flatten henc l hk)
  obtain ⟨a2, e2, hr2⟩ := rep_enc p enc Ok hp henc l [] a1 k hok hr1 hk
  exact ⟨a2, (C04.bind_ok ..).mpr ⟨_, e1, e2⟩, hr2⟩

theorem string_enc (s : List Nat) (hlen : s.length ≤ U32MAX) (hn : ∀ c ∈ s, c ≠ 0) (a : AS) (k : List Nat) (hr : a.rest = addStr s ++ k) :
    ∃ a', AspifIn.string a = .ok (s, a') ∧ a'.rest = k := by
  rw [addStr, List.append_assoc, List.append_assoc] at hr
  obtain ⟨a1, e1, hr1⟩ := pos_addN s.length hlen a _ hr (sp_blank _)
  obtain ⟨a2, e2, hr2⟩ := AspifLang.bytes_blank (bs := s) hr1 hn
  exact ⟨a2, (C04.bind_ok ..).mpr ⟨_, e1, e2⟩, hr2⟩

section
open PotasscoVerif.AspifLang
open PotasscoVerif.C03 (directiveL)

theorem theory_fields {kind : Int} (hkind : 0 ≤ kind ∧ kind ≤ (U32MAX : Nat)) {t : List Nat} {c : Call} (h : C03.theoryL kind.toNat true t c) :
    directiveL (N Gen.Directive_t_Theory) true (addI kind ++ t) (some c) := seq_intro (numN_addI hkind) (seq_ret _ h)

theorem directiveL_fields (c : Call) (hd : isDirective c = true) (hw : WFw c) :
    directiveL (N (dirCode c)) true (fields c) (some (norm c)) := by
  cases c with
  | initProgram _ => cases hd
  | beginStep => cases hd
  | endStep => cases hd
  | rule ht head body =>
    obtain ⟨hht, hlh, hh, hlb, hb⟩ := hw
    simp only [fields, List.append_assoc]
    exact seq_intro (numN_addN hht) (seq_intro (atomsL_addNats hlh hh) (seq_intro (numN_addI (v := Gen.Body_t_Normal) (by decide))
      (seq_ret _ (litsL_addLits hlb hb))))
  | sumRule ht head b ws =>
    obtain ⟨hht, hlh, hh, hb, hlw, hws⟩ := hw
    simp only [fields, List.append_assoc]
    exact seq_intro (numN_addN hht) (seq_intro (atomsL_addNats hlh hh) (seq_intro (numN_addI (v := Gen.Body_t_Sum) (by decide))
      (seq_intro (num_addI _ _ b hb) (seq_ret _ (wlitsL_addWLits 0 hlw hws)))))
  | minimize p ws =>
    obtain ⟨hp, hlw, hws⟩ := hw
    exact seq_intro (num_addI _ _ p hp) (seq_ret _ (wlitsL_addWLits I32MIN hlw hws))
  | project l => exact seq_ret _ (atomsL_addNats hw.1 hw.2)
  | output s cond =>
    obtain ⟨hls, hn, hlc, hc⟩ := hw
    exact seq_intro (strL_addStr hls hn) (seq_ret _ (litsL_addLits hlc hc))
  | external x v => exact seq_intro (atomL_addN hw.1) (seq_ret _ (numN_addN hw.2))
  | assume l => exact seq_ret _ (litsL_addLits hw.1 hw.2)
  | heuristic x t bias prio cond =>
    obtain ⟨hx, ht, hb, hp, hlc, hc⟩ := hw
    simp only [fields, List.append_assoc]
    exact seq_intro (numN_addN ht) (seq_intro (atomL_addN hx) (seq_intro (num_addI _ _ bias hb) (seq_intro (numN_addN hp)
      (seq_ret _ (litsL_addLits hlc hc)))))
  | acycEdge s t cond =>
    obtain ⟨hs, ht, hlc, hc⟩ := hw
    obtain ⟨n, rfl⟩ := Int.eq_ofNat_of_zero_le hs.1
    obtain ⟨m, rfl⟩ := Int.eq_ofNat_of_zero_le ht.1
    simp only [fields, List.append_assoc]
    exact seq_intro (numN_addI hs) (seq_intro (numN_addI ht) (seq_ret _ (litsL_addLits hlc hc)))
  | theoryNum id n =>
    simp only [fields, List.append_assoc]
    exact theory_fields (kind := Gen.Theory_t_Number) (by decide) (seq_intro (posL_addN hw.1) (seq_ret _ (num_addI _ _ n hw.2)))
  | theorySym id str =>
    obtain ⟨hid, hls, hs⟩ := hw
    simp only [fields, List.append_assoc]
    exact theory_fields (kind := Gen.Theory_t_Symbol) (by decide) (seq_intro (posL_addN hid) (seq_ret _ (strL_addStr hls hs)))
  | theoryCompound id t args =>
    obtain ⟨hid, ht, hla, ha⟩ := hw
    simp only [fields, List.append_assoc]
    exact theory_fields (kind := Gen.Theory_t_Compound) (by decide) (seq_intro (posL_addN hid)
      (seq_intro (num_addI _ _ t ht) (seq_ret _ (idsL_addNats hla ha))))
  | theoryElement id ts cnd =>
    obtain ⟨hid, hlt, hts, hlc, hcs⟩ := hw
    simp only [fields, List.append_assoc]
    exact theory_fields (kind := Gen.Theory_t_Element) (by decide) (seq_intro (posL_addN hid)
      (seq_intro (idsL_addNats hlt hts) (seq_ret _ (litsL_addLits hlc hcs))))
  | theoryAtom x t es g =>
    obtain ⟨hx, ht, hle, hes, hg⟩ := hw
    rcases g with _ | ⟨op, rhs⟩ <;> simp only [fields, List.append_assoc]
    · exact theory_fields (kind := Gen.Theory_t_Atom) (by decide) (seq_intro (posL_addN hx)
        (seq_intro (posL_addN ht) (seq_ret _ (idsL_addNats hle hes))))
    · obtain ⟨hop, hrhs⟩ := hg (op, rhs) rfl
      exact theory_fields (kind := Gen.Theory_t_AtomWithGuard) (by decide) (seq_intro (posL_addN hx)
        (seq_intro (posL_addN ht) (seq_intro (idsL_addNats hle hes) (seq_intro (posL_addN hop) (seq_ret _ (posL_addN hrhs))))))
end

theorem directive_rt (c : Call) (hd : isDirective c = true) (hw : WFw c) (a : AS) (k : List Nat)
    (hr : a.rest = fields c ++ (nl ++ k)) :
    ∃ a', directive (N (dirCode c)) a = .ok (some (norm c), a') ∧ a'.rest = nl ++ k :=
  (C03.Spec.directive _).complete _ _ a _ (directiveL_fields c hd hw) hr (sp_nl k).nds

theorem dirCode_range (c : Call) (hd : isDirective c = true) : 1 ≤ N (dirCode c) ∧ N (dirCode c) ≤ 9 := by
  cases c <;> first | exact ⟨Nat.le_of_ble_eq_true rfl, Nat.le_of_ble_eq_true rfl⟩ | cases hd

/-- `ws`: blanks before the directive, e.g. the newline of the previous line -/
theorem dirStep_call (c : Call) (hd : isDirective c = true) (hw : WFw c) (a : AS) (ws k : List Nat) (hws : ∀ x ∈ ws, isWs x = true)
    (hr : a.rest = ws ++ (writeCall c ++ k)) :
    ∃ a', dirStep a = .cont (some (norm c)) a' ∧ a'.rest = nl ++ k := by
  rw [writeCall_fields c hd, List.append_assoc, List.append_assoc, ← List.append_assoc] at hr
  obtain ⟨h1, h9⟩ := dirCode_range c hd
  have h10 : N Gen.Directive_t_eMax = 10 := rfl
  obtain ⟨a1, e1, r1⟩ := AspifLang.posMax_complete false _ C03.hDirMax _ (N (dirCode c)) a _
    (AspifLang.num_printNat false 0 _ _ ⟨Int.natCast_nonneg _, Int.ofNat_le.mpr (by omega)⟩ ws hws nofun) hr
    ((C03.Spec.directive _).safe _ _ _ (directiveL_fields c hd hw) (sp_nl k).nds)
  obtain ⟨a2, e2, r2⟩ := directive_rt c hd hw a1 k r1
  exact ⟨a2, C03.dirStep_of_dir e1 (by omega) e2, r2⟩

theorem str0 : str "0" = [48] := by decide +kernel

theorem dirStep_end (a : AS) (ws k : List Nat) (hws : ∀ x ∈ ws, isWs x = true) (hr : a.rest = ws ++ (str "0" ++ nl ++ k)) :
    ∃ a', dirStep a = .stop (.ok a') ∧ a'.rest = nl ++ k := by
  obtain ⟨a1, e1, r1⟩ := AspifLang.posMax_complete false _ C03.hDirMax (ws ++ [48]) 0 a (nl ++ k)
    (AspifLang.num_printNat false 0 _ 0 (by decide) ws hws nofun) (by rw [hr, str0]; simp only [List.append_assoc]) (sp_nl k).nds
  exact ⟨a1, C03.dirStep_of_zero e1, r1⟩

theorem write_cons (c : Call) (cs : List Call) : write (c :: cs) = writeCall c ++ write cs := rfl

theorem stepLoop_rt : ∀ (cs : List Call) (f : Nat) (a : AS) (acc : List Call) (ws k : List Nat), cs.length < f →
    (∀ c ∈ cs, isDirective c = true ∧ WFw c) → (∀ x ∈ ws, isWs x = true) →
    a.rest = ws ++ (write cs ++ (str "0" ++ nl ++ k)) →
    ∃ a', stepLoop f a acc = (acc.reverse ++ cs.map norm, .ok a') ∧ a'.rest = nl ++ k := by
  intro cs
  induction cs with
  | nil =>
    intro f a acc ws k hf _ hws hr
    obtain ⟨f', rfl⟩ := Nat.exists_eq_succ_of_ne_zero (Nat.ne_zero_of_lt hf)
    obtain ⟨a1, e1, r1⟩ := dirStep_end a ws k hws hr
    exact ⟨a1, by rw [C04.stepLoop_succ, e1, List.map_nil, List.append_nil], r1⟩
  | cons c r ih =>
    intro f a acc ws k hf hok hws hr
    obtain ⟨f', rfl⟩ := Nat.exists_eq_succ_of_ne_zero (Nat.ne_zero_of_lt hf)
    have hc := hok c List.mem_cons_self
    obtain ⟨a1, e1, r1⟩ := dirStep_call c hc.1 hc.2 a ws (write r ++ (str "0" ++ nl ++ k)) hws
      (by rw [hr, write_cons, List.append_assoc])
    obtain ⟨a2, e2, r2⟩ := ih f' a1 (norm c :: acc) nl k (Nat.lt_of_succ_lt_succ hf)
      (fun x hx => hok x (List.mem_cons_of_mem _ hx)) nl_ws r1
    refine ⟨a2, ?_, r2⟩
    rw [C04.stepLoop_succ, e1]
    simp only [e2, List.reverse_cons, List.append_assoc, List.map_cons, List.singleton_append]


def writeStep (cs : List Call) : List Nat := write cs ++ (str "0" ++ nl)
def stepCalls (cs : List Call) : List Call := [.beginStep] ++ cs ++ [.endStep]
def progCalls (inc : Bool) (steps : List (List Call)) : List Call := [.initProgram inc] ++ (steps.map stepCalls).flatten

theorem write_append (x y : List Call) : write (x ++ y) = write x ++ write y := by simp [write]

theorem write_stepCalls (cs : List Call) : write (stepCalls cs) = writeStep cs := by
  simp [stepCalls, writeStep, write, writeCall]

theorem write_steps (steps : List (List Call)) : write (steps.map stepCalls).flatten = (steps.map writeStep).flatten := by
  induction steps with
  | nil => rfl
  | cons s r ih => simp only [List.map_cons, List.flatten_cons, write_append, write_stepCalls, ih]

theorem write_progCalls (inc : Bool) (steps : List (List Call)) :
    write (progCalls inc steps) = writeCall (.initProgram inc) ++ (steps.map writeStep).flatten := by
  unfold progCalls; rw [write_append, write_steps]; simp [write]

theorem digit_props {d : Nat} (h : isDigit d = true) : isWs d = false ∧ d ≠ 0 := by
  have := BufferedStream.isDigit_range h
  exact ⟨by simp [isWs]; omega, by omega⟩

theorem writeStep_head (s : List Call) (hs : ∀ c ∈ s, isDirective c = true) (k : List Nat) :
    ∃ d r, writeStep s ++ k = d :: r ∧ isDigit d = true := by
  cases s with
  | nil => exact ⟨48, nl ++ k, by rw [writeStep, str0]; rfl, by decide⟩
  | cons c r =>
    obtain ⟨d, r', e, h⟩ := printNat_head_digit (dirCode c).toNat
    refine ⟨d, r' ++ (fields c ++ (nl ++ (write r ++ (str "0" ++ nl ++ k)))), ?_, h⟩
    rw [writeStep, write_cons, writeCall_fields c (hs c List.mem_cons_self), dir, e]
    simp only [List.append_assoc, List.cons_append]

theorem write_length (cs : List Call) (h : ∀ c ∈ cs, isDirective c = true) : cs.length ≤ (write cs).length := by
  induction cs with
  | nil => exact Nat.le_refl 0
  | cons c r ih =>
    have := ih fun x hx => h x (List.mem_cons_of_mem _ hx)
    have : nl.length = 1 := rfl
    rw [write_cons, writeCall_fields c (h c List.mem_cons_self), List.length_append, List.length_append, List.length_cons]
    omega

theorem steps_length (steps : List (List Call)) : steps.length ≤ ((steps.map writeStep).flatten).length := by
  induction steps with
  | nil => exact Nat.le_refl 0
  | cons s r ih =>
    have : 1 ≤ (writeStep s).length := by
      rw [writeStep, List.length_append, List.length_append]
      exact Nat.le_trans (Nat.le_add_left 1 _) (Nat.le_add_left _ _)
    rw [List.map_cons, List.flatten_cons, List.length_append, List.length_cons]
    omega

/-- with the fuel the step loop gives the directive loop -/
theorem writeStep_rt (s : List Call) (hs : ∀ c ∈ s, isDirective c = true ∧ WFw c) (a : AS) (k : List Nat)
    (hr : a.rest = writeStep s ++ k) :
    ∃ a1, stepLoop (a.rest.length + 1) a [] = (s.map norm, .ok a1) ∧ a1.rest = nl ++ k := by
  refine stepLoop_rt s _ a [] [] k ?_ hs (fun _ h => nomatch h) (by rw [hr, writeStep, List.append_assoc, List.append_assoc]; rfl)
  have := write_length s fun c hc => (hs c hc).1
  rw [hr, writeStep, List.length_append, List.length_append]; omega

theorem stepsLoop_rt : ∀ (rest : List (List Call)) (s : List Call) (f : Nat) (inc : Bool) (a : AS) (acc : List Call), rest.length < f →
    (∀ st ∈ s :: rest, ∀ c ∈ st, isDirective c = true ∧ WFw c) → (inc = false → rest = []) →
    a.rest = ((s :: rest).map writeStep).flatten →
    stepsLoop f inc a acc = { calls := acc ++ (((s :: rest).map (fun st => st.map norm)).map stepCalls).flatten, err := none } := by
  intro rest
  induction rest with
  | nil =>
    intro s f inc a acc hf hok _ hr
    obtain ⟨f', rfl⟩ := Nat.exists_eq_succ_of_ne_zero (Nat.ne_zero_of_lt hf)
    obtain ⟨a1, e1, r1⟩ := writeStep_rt s (hok s List.mem_cons_self) a [] hr
    have hm := (C03.more_spec r1 nl_ws nofun).1
    rw [C04.stepsLoop_succ, e1]
    simp [hm, stepCalls]
  | cons s2 rest ih =>
    intro s f inc a acc hf hok hinc hr
    obtain ⟨f', rfl⟩ := Nat.exists_eq_succ_of_ne_zero (Nat.ne_zero_of_lt hf)
    obtain rfl : inc = true := by
      cases inc with
      | true => rfl
      | false => exact nomatch hinc rfl
    obtain ⟨a1, e1, r1⟩ := writeStep_rt s (hok s List.mem_cons_self) a _ hr
    obtain ⟨d, r, ed, hd⟩ := writeStep_head s2 (fun c hc => (hok s2 (by simp) c hc).1) ((rest.map writeStep).flatten)
    rw [List.map_cons, List.flatten_cons, ed] at r1
    have ⟨hm, hsk⟩ := C03.more_spec r1 nl_ws fun _ _ e => (List.cons.inj e).1 ▸ (digit_props hd).1
    rw [C04.stepsLoop_succ, e1]
    simp only [hm, List.headD_cons, bne_iff_ne.mpr (digit_props hd).2, Bool.not_true, Bool.and_false, Bool.false_eq_true, ↓reduceIte]
    rw [ih s2 f' true _ _ (Nat.lt_of_succ_lt_succ hf) (fun st hst => hok st (List.mem_cons_of_mem _ hst)) nofun (hsk.trans ed.symm)]
    simp [stepCalls]


theorem hdr_text (inc : Bool) : writeCall (.initProgram inc) =
    C03.kwAsp ++ (printNat 1 ++ (addN 0 ++ (addN 0 ++ ((if inc then [32] else []) ++ (if inc then C03.kwInc else []))))) ++ nl := by
  cases inc <;> decide +kernel

theorem header_rt (inc : Bool) (a : AS) (body : List Nat) (hr : a.rest = writeCall (.initProgram inc) ++ body) :
    ∃ a', header a = some (.ok (inc, a')) ∧ a'.rest = nl ++ body := by
  rw [hdr_text, List.append_assoc] at hr
  exact C03.header_complete a _ inc _ ⟨[], printNat 1, addN 0, addN 0, if inc then [32] else [], 0, rfl, .nil,
    AspifLang.num_printNat false 0 _ 1 (by decide) [] .nil nofun, AspifLang.numN_addN (Nat.zero_le _), AspifLang.numN_addN (Nat.zero_le _),
    by cases inc <;> simp⟩ hr ⟨10, body, rfl, .inl rfl⟩

/-- a program as the writer is given it: at least one step, several only when incremental; every call of a step is a
    directive with arguments in the documented ranges -/
structure WFProg (inc : Bool) (steps : List (List Call)) : Prop where
  nonempty : steps ≠ []
  single   : inc = false → steps.length = 1
  calls    : ∀ st ∈ steps, ∀ c ∈ st, isDirective c = true ∧ WFw c

/-- The aspif round trip: for every well-formed program — any directives, any number of steps — the reader run on exactly
    what the writer produces delivers the same calls (literals of weight 0 dropped, the documented normalisation) and no error. -/
theorem write_read (inc : Bool) (steps : List (List Call)) (h : WFProg inc steps) :
    AspifIn.read (write (progCalls inc steps)) = { calls := progCalls inc (steps.map (fun st => st.map norm)), err := none } := by
  rw [write_progCalls]
  obtain ⟨s, rest, rfl⟩ := List.exists_cons_of_ne_nil h.nonempty
  obtain ⟨a1, e1, r1⟩ := header_rt inc (AS.init (writeCall (.initProgram inc) ++ ((s :: rest).map writeStep).flatten)) _ rfl
  unfold AspifIn.read
  simp only [e1, AS.get_lf r1, ne_eq, not_true_eq_false, ↓reduceIte]
  rw [stepsLoop_rt rest s _ inc _ _ (Nat.lt_succ_of_le (Nat.le_trans (steps_length rest) (by simp)))
    h.calls (fun hi => List.length_eq_zero_iff.mp (Nat.succ.inj (h.single hi))) rfl]
  rfl

end PotasscoVerif.AspifRT
