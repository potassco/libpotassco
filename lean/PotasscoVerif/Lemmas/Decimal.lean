/-
  Decimal printing and reading are inverse: the unit of every writer/reader round trip.  At the end, the bytes of a string
  literal (`AspifOut.str_ofList`), by which the examples evaluate `str "…"`.
-/
import PotasscoVerif.Model.AspifOut
import PotasscoVerif.Spec.CharStream
import PotasscoVerif.Lemmas.BufferedStream
namespace PotasscoVerif.Decimal
open PotasscoVerif.AspifOut PotasscoVerif.CharStream
open PotasscoVerif.BufferedStream (isDigit toDigit I64MAX isWs)

/-- "starts with a non-digit" (or is empty): what must follow a number for it to be read back alone. -/
def NDS (k : List Nat) : Prop := ∀ c r, k = c :: r → isDigit c = false

theorem NDS_nil : NDS [] := by intro c r h; cases h
theorem NDS_cons {c : Nat} {r : List Nat} (h : isDigit c = false) : NDS (c :: r) := by
  intro c' r' e; cases e; exact h

theorem val_append : ∀ (l1 l2 : List Nat) (a : Nat), val (l1 ++ l2) a = val l2 (val l1 a) := by
  intro l1
  induction l1 with
  | nil => intro l2 a; rfl
  | cons c r ih => intro l2 a; simp [val, ih]

theorem digitsAux_acc : ∀ (f n : Nat) (acc : List Nat), digitsAux f n acc = digitsAux f n [] ++ acc := by
  intro f
  induction f with
  | zero => intro n acc; rfl
  | succ f ih =>
    intro n acc
    unfold digitsAux
    by_cases h : n < 10
    · simp [h]
    · simp only [h, ↓reduceIte]
      rw [ih (n / 10) ((48 + n % 10) :: acc), ih (n / 10) [48 + n % 10]]
      simp

theorem val_digitsAux : ∀ (f n : Nat), n < f → val (digitsAux f n []) 0 = n := by
  intro f
  induction f with
  | zero => intro n h; omega
  | succ f ih =>
    intro n h
    unfold digitsAux
    by_cases h10 : n < 10
    · simp [h10, val, toDigit]
    · simp only [h10, ↓reduceIte]
      rw [digitsAux_acc, val_append, ih (n / 10) (by omega)]
      simp [val, toDigit]; omega

theorem val_printNat (n : Nat) : val (printNat n) 0 = n := val_digitsAux (n + 1) n (by omega)

theorem digitsAux_digits : ∀ (f n : Nat) (acc : List Nat), (∀ c ∈ acc, isDigit c = true) →
    ∀ c ∈ digitsAux f n acc, isDigit c = true := by
  intro f
  induction f with
  | zero => intro n acc h; exact h
  | succ f ih =>
    intro n acc h
    have hcons : ∀ m, m < 10 → ∀ c ∈ (48 + m) :: acc, isDigit c = true := fun m hm c hc =>
      (List.mem_cons.mp hc).elim (fun e => e ▸ by simp [isDigit]; omega) (h c)
    unfold digitsAux
    split
    · exact hcons n ‹_›
    · exact ih _ _ (hcons _ (Nat.mod_lt _ (by decide)))

theorem printNat_digits (n : Nat) : ∀ c ∈ printNat n, isDigit c = true :=
  digitsAux_digits _ _ [] (by intro c h; cases h)

theorem digitsAux_ne_nil : ∀ (f n : Nat), 0 < f → digitsAux f n [] ≠ [] := by
  intro f n hf
  cases f with
  | zero => omega
  | succ f =>
    unfold digitsAux
    by_cases h10 : n < 10
    · simp [h10]
    · simp only [h10, ↓reduceIte]; rw [digitsAux_acc]; simp

theorem printNat_ne_nil (n : Nat) : printNat n ≠ [] := digitsAux_ne_nil _ _ (by omega)

theorem printNat_head_digit (n : Nat) : ∃ d r, printNat n = d :: r ∧ isDigit d = true := by
  cases h : printNat n with
  | nil => exact absurd h (printNat_ne_nil n)
  | cons d r => exact ⟨d, r, rfl, printNat_digits n d (by rw [h]; simp)⟩

theorem digitRun_append : ∀ (ds k : List Nat), (∀ c ∈ ds, isDigit c = true) → NDS k →
    digitRun (ds ++ k) = (ds, k) := by
  intro ds k hd hk
  have hk' : k.takeWhile isDigit = [] ∧ k.dropWhile isDigit = k := by
    cases k with
    | nil => exact ⟨rfl, rfl⟩
    | cons c r =>
      have hc := Bool.eq_false_iff.mp (hk c r rfl)
      exact ⟨List.takeWhile_cons_of_neg hc, List.dropWhile_cons_of_neg hc⟩
  rw [BufferedStream.digitRun_eq, List.takeWhile_append_of_pos hd, List.dropWhile_append_of_pos hd, hk'.1, hk'.2, List.append_nil]

def NWS (k : List Nat) : Prop := ∀ c r, k = c :: r → isWs c = false

theorem get_rest_ws (a : AS) (c : Nat) (r : List Nat) (h : a.rest = c :: r) (hc : isWs c = true) :
    a.get.2.rest = r ∨ (c = 13 ∧ ∃ r', r = 10 :: r' ∧ a.get.2.rest = r') := by
  rcases a.get_cases with ⟨h0, _⟩ | ⟨_, _, e | e | ⟨e, _⟩⟩ | ⟨e, _⟩
  · rw [AS.peek, h] at h0; rw [show c = 0 from h0] at hc; cases hc
  · exact .inl (List.cons.inj (h.symm.trans e)).2.symm
  · obtain ⟨rfl, rfl⟩ := List.cons.inj (h.symm.trans e); exact .inr ⟨rfl, _, rfl, rfl⟩
  · exact .inl (List.cons.inj (h.symm.trans e)).2.symm
  · exact .inl (List.cons.inj (h.symm.trans e)).2.symm

/-- CR LF is extracted by one `get`, and both are blanks. -/
theorem skipWsF_rest : ∀ (f : Nat) (a : AS), a.rest.length < f → (AS.skipWsF f a).rest = a.rest.dropWhile isWs := by
  intro f
  induction f with
  | zero => intro a h; exact absurd h (Nat.not_lt_zero _)
  | succ f ih =>
    intro a hf
    unfold AS.skipWsF
    rw [AS.peek]
    cases hr : a.rest with
    | nil => exact hr
    | cons c r =>
      rw [hr] at hf
      by_cases hc : isWs c = true
      · rw [List.headD_cons, if_pos hc, List.dropWhile_cons_of_pos hc]
        rcases get_rest_ws a c r hr hc with h1 | ⟨_, r', h2, h3⟩
        · rw [ih _ (h1 ▸ Nat.lt_of_succ_lt_succ hf), h1]
        · rw [ih _ (by rw [h3]; rw [h2] at hf; exact Nat.lt_of_succ_lt (Nat.lt_of_succ_lt_succ hf)), h3, h2]
          rfl
      · rw [List.headD_cons, if_neg hc, hr, List.dropWhile_cons_of_neg hc]

theorem skipWs_rest (a : AS) : a.skipWs.rest = a.rest.dropWhile isWs := skipWsF_rest _ _ (Nat.lt_succ_self _)

theorem skipWs_spec (a : AS) (ws r : List Nat) (hr : a.rest = ws ++ r) (hws : ∀ c ∈ ws, isWs c = true)
    (hnw : NWS r) : a.skipWs.rest = r := by
  rw [skipWs_rest, hr, List.dropWhile_append_of_pos hws]
  cases r with
  | nil => rfl
  | cons c r' => exact List.dropWhile_cons_of_neg (Bool.eq_false_iff.mp (hnw c r' rfl))

inductive Sign where | none | plus | minus
deriving Repr, DecidableEq

def Sign.text : Sign → List Nat
  | .none => [] | .plus => [43] | .minus => [45]
def Sign.apply : Sign → Nat → Int
  | .minus, n => -(n : Int)
  | _, n => (n : Int)

/-- `c` is the character before the digits (anything but `-`: no sign). -/
theorem matchIntDigits_token (a : AS) (c : Nat) (ds k : List Nat) (hr : a.rest = ds ++ k)
    (hds : ∀ c ∈ ds, isDigit c = true) (hne : ds ≠ []) (hk : NDS k) :
    a.matchIntDigits c = (.val (if c == 45 then -((min (val ds 0) I64MAX : Nat) : Int) else (min (val ds 0) I64MAX : Nat)),
      { a with rest := k, canUnget := true }) := by
  obtain ⟨d, r, rfl⟩ := List.exists_cons_of_ne_nil hne
  have hd : isDigit a.peek = true := by rw [AS.peek, hr]; exact hds d List.mem_cons_self
  unfold AS.matchIntDigits
  rw [hd, hr, digitRun_append _ _ hds hk]
  rfl

/-- a digit string of any length: the matcher returns the denoted value capped at 2^63-1, with the sign applied. -/
theorem matchInt_token (a : AS) (sg : Sign) (ds ws k : List Nat) (hr : a.rest = ws ++ (sg.text ++ (ds ++ k)))
    (hws : ∀ c ∈ ws, isWs c = true) (hds : ∀ c ∈ ds, isDigit c = true) (hne : ds ≠ []) (hk : NDS k) :
    ∃ a', a.matchInt false = (.val (sg.apply (min (val ds 0) I64MAX)), a') ∧ a'.rest = k := by
  obtain ⟨d, r, e⟩ := List.exists_cons_of_ne_nil hne
  obtain ⟨hd1, hd2⟩ := BufferedStream.isDigit_range (hds d (e ▸ List.mem_cons_self))
  have hnw : NWS (sg.text ++ (ds ++ k)) := by
    intro c r' h
    cases sg <;> rw [e] at h <;> obtain rfl := (List.cons.inj h).1 <;> simp [isWs] <;> omega
  have hs := skipWs_spec a ws _ hr hws hnw
  unfold AS.matchInt
  rw [if_neg Bool.false_ne_true]
  generalize a.skipWs = a0 at hs
  unfold AS.matchIntCore
  cases sg with
  | none =>
    have hp : a0.peek = d := by rw [AS.peek, hs, e]; rfl
    rw [hp, if_neg (by simp; omega), matchIntDigits_token a0 d ds k hs hds hne hk, if_neg (by simp; omega)]
    exact ⟨_, rfl, rfl⟩
  | plus =>
    have hp : a0.peek = 43 := by rw [AS.peek, hs]; rfl
    rw [hp, if_pos (by decide), matchIntDigits_token _ 43 ds k (by rw [hs]; rfl) hds hne hk]
    exact ⟨_, rfl, rfl⟩
  | minus =>
    have hp : a0.peek = 45 := by rw [AS.peek, hs]; rfl
    rw [hp, if_pos (by decide), matchIntDigits_token _ 45 ds k (by rw [hs]; rfl) hds hne hk]
    exact ⟨_, rfl, rfl⟩

theorem printInt_eq (v : Int) : printInt v = (if v < 0 then Sign.minus else Sign.none).text ++ printNat v.natAbs := by
  unfold printInt
  split
  · rfl
  · rw [show v.toNat = v.natAbs by omega]; rfl

theorem printInt_nat (n : Nat) : printInt (n : Int) = printNat n := by
  unfold printInt; rw [if_neg (by omega)]; rfl

theorem Sign.apply_natAbs (v : Int) : (if v < 0 then Sign.minus else Sign.none).apply v.natAbs = v := by
  split <;> simp only [Sign.apply] <;> omega

theorem matchInt_printInt (a : AS) (v : Int) (ws k : List Nat) (hr : a.rest = ws ++ (printInt v ++ k))
    (hws : ∀ c ∈ ws, isWs c = true) (hk : NDS k) (hv : v.natAbs ≤ I64MAX) :
    ∃ a', a.matchInt false = (.val v, a') ∧ a'.rest = k := by
  rw [printInt_eq, List.append_assoc] at hr
  have h := matchInt_token a _ _ ws k hr hws (printNat_digits _) (printNat_ne_nil _) hk
  rwa [val_printNat, Nat.min_eq_left hv, Sign.apply_natAbs] at h

end PotasscoVerif.Decimal

namespace PotasscoVerif.AspifOut

theorem toList_loop (bs : ByteArray) : ∀ (n i : Nat) (r : List UInt8), bs.size - i = n →
    ByteArray.toList.loop bs i r = r.reverse ++ bs.data.toList.drop i := by
  intro n
  induction n with
  | zero =>
    intro i r h
    have hi : bs.data.toList.length ≤ i := by simp only [Array.length_toList]; exact Nat.le_of_sub_eq_zero h
    rw [ByteArray.toList.loop, if_neg (by omega), List.drop_eq_nil_of_le hi, List.append_nil]
  | succ n ih =>
    intro i r h
    have hi : i < bs.data.toList.length := by simp only [Array.length_toList]; exact Nat.lt_of_sub_eq_succ h
    rw [ByteArray.toList.loop, if_pos (by omega), ih _ _ (by omega), List.drop_eq_getElem_cons hi]
    simp only [ByteArray.get!, List.reverse_cons, List.append_assoc, List.singleton_append, Array.getElem_toList]
    rw [getElem!_pos bs.data i (by simpa using hi)]

/-- the bytes of a string literal, which is `String.ofList` of its characters by definition.  `rw` with this before evaluating keeps the
    byte-array loops of `String.toUTF8` and `ByteArray.toList` (well-founded recursion, slow to evaluate) out of the evaluation. -/
theorem str_ofList (l : List Char) : str (String.ofList l) = (l.flatMap String.utf8EncodeChar).map (·.toNat) := by
  simp [str, String.toUTF8, List.utf8Encode, ByteArray.toList, toList_loop _ _ 0 [] rfl]

end PotasscoVerif.AspifOut
