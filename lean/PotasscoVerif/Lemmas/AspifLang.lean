/-
  Languages (sets of (word, value) pairs) for the aspif grammar, and the relation `Spec p L` between a stream parser of the
  reader model and a language: whatever the parser accepts is a word of the lenient language `L false` (what the reader
  tolerates); every word of the strict language `L true` (whitespace-separated tokens), followed by something that is not a
  digit, is accepted with its value; either way exactly the word is consumed.
  What `AspifOutput` writes for a number, a list, a string is a word of the strict language: the round trips
  (Lemmas/AspifRoundTrip2.lean, Lemmas/SmodelsRoundTrip.lean) are `complete` applied to such words.
-/
import PotasscoVerif.Props.C03
import PotasscoVerif.Lemmas.AspifRoundTrip
namespace PotasscoVerif.AspifLang
open PotasscoVerif PotasscoVerif.CharStream PotasscoVerif.AspifIn PotasscoVerif.Decimal
open PotasscoVerif.BufferedStream (IntRes isWs isDigit I64MAX)
open PotasscoVerif.C03 (denoted intIn_token)

abbrev Lang (α : Type) := List Nat → α → Prop

def Filler (ws : List Nat) : Prop := ∀ c ∈ ws, isWs c = true
def Digits (ds : List Nat) : Prop := ds ≠ [] ∧ ∀ c ∈ ds, isDigit c = true

/-- a number token: filler, optional sign, digits; its value is the denoted number and lies in the field.
    strict + `lead`: the token is set off from what precedes it (filler or sign). -/
def num (s lead : Bool) (lo hi : Int) : Lang Int := fun w v =>
  ∃ ws sg ds, w = ws ++ (Sign.text sg ++ ds) ∧ Filler ws ∧ Digits ds ∧ v = denoted sg ds ∧ lo ≤ v ∧ v ≤ hi ∧
    (s = true → lead = true → ws ≠ [] ∨ sg ≠ .none)

def ret {α : Type} (x : α) : Lang α := fun w v => w = [] ∧ v = x
def seq {α β : Type} (L1 : Lang α) (L2 : α → Lang β) : Lang β := fun w y => ∃ w1 w2 x, w = w1 ++ w2 ∧ L1 w1 x ∧ L2 x w2 y
def none' {α : Type} : Lang α := fun _ _ => False

theorem seq_intro {α β : Type} {L1 : Lang α} {L2 : α → Lang β} {w1 w2 : List Nat} {x : α} {y : β} (h1 : L1 w1 x) (h2 : L2 x w2 y) :
    seq L1 L2 (w1 ++ w2) y := ⟨w1, w2, x, rfl, h1, h2⟩
theorem seq_ret {α β : Type} {L1 : Lang α} (f : α → β) {w : List Nat} {x : α} (h1 : L1 w x) : seq L1 (fun x => ret (f x)) w (f x) :=
  ⟨w, [], x, (List.append_nil w).symm, h1, rfl, rfl⟩

/-- the words of the strict language never start with a digit (so they may follow a number) -/
def Safe {α : Type} (L : Bool → Lang α) : Prop := ∀ w x k, L true w x → NDS k → NDS (w ++ k)

structure Spec {α : Type} (p : P α) (L : Bool → Lang α) : Prop where
  sound : ∀ a x a', p a = .ok (x, a') → ∃ w, a.rest = w ++ a'.rest ∧ L false w x
  complete : ∀ w x a k, L true w x → a.rest = w ++ k → NDS k → ∃ a', p a = .ok (x, a') ∧ a'.rest = k
  safe : Safe L

theorem Safe.ret {α : Type} (x : α) : Safe (fun _ => ret x) := by
  rintro w y k ⟨rfl, _⟩ hk; exact hk
theorem Safe.none' {α : Type} : Safe (fun _ => (none' : Lang α)) := nofun
theorem Safe.seq {α β : Type} {L1 : Bool → Lang α} {L2 : α → Bool → Lang β} (h1 : Safe L1) (h2 : ∀ x, Safe (L2 x)) :
    Safe (fun s => seq (L1 s) (fun x => L2 x s)) := by
  rintro w y k ⟨w1, w2, x, rfl, l1, l2⟩ hk
  rw [List.append_assoc]
  exact h1 w1 x _ l1 (h2 x w2 y k l2 hk)
theorem Safe.ite {α : Type} (c : Prop) [Decidable c] {L1 L2 : Bool → Lang α} (h1 : Safe L1) (h2 : Safe L2) :
    Safe (fun s => if c then L1 s else L2 s) := by
  by_cases h : c <;> simp only [h, ↓reduceIte]
  · exact h1
  · exact h2

theorem ws_not_digit {c : Nat} (h : isWs c = true) : isDigit c = false := by
  simp only [isWs, isDigit, Bool.and_eq_true, Bool.and_eq_false_iff, decide_eq_true_eq, decide_eq_false_iff_not] at h ⊢; omega

theorem Filler.nil : Filler [] := nofun
theorem Filler.of_all {w : List Nat} (h : w.all isWs = true) : Filler w := fun c hc => List.all_eq_true.mp h c hc
theorem Digits.single {d : Nat} (hd : isDigit d = true) : Digits [d] := ⟨List.cons_ne_nil _ _, fun _ hc => List.mem_singleton.mp hc ▸ hd⟩

theorem Filler.append {u v : List Nat} (hu : Filler u) (hv : Filler v) : Filler (u ++ v) :=
  fun c hc => (List.mem_append.mp hc).elim (hu c) (hv c)

theorem Filler.nds_append {ws : List Nat} (h : Filler ws) (hne : ws ≠ []) (k : List Nat) : NDS (ws ++ k) := by
  cases ws with
  | nil => exact absurd rfl hne
  | cons x t => exact NDS_cons (ws_not_digit (h x List.mem_cons_self))

theorem Filler.append_nds {ws r : List Nat} (h : Filler ws) (hr : NDS r) : NDS (ws ++ r) := by
  cases ws with
  | nil => exact hr
  | cons x t => exact h.nds_append (List.cons_ne_nil _ _) r

theorem Filler.nds {ws : List Nat} (h : Filler ws) : NDS ws := fun c _ e => ws_not_digit (h c (e ▸ List.mem_cons_self))

theorem num_nds {lo hi : Int} {w : List Nat} {v : Int} (hw : num true true lo hi w v) (k : List Nat) : NDS (w ++ k) := by
  obtain ⟨ws, sg, ds, rfl, hws, _, _, _, _, hl⟩ := hw
  cases ws with
  | cons x xs => exact NDS_cons (ws_not_digit (hws x List.mem_cons_self))
  | nil =>
    cases sg with
    | none => exact absurd (hl rfl rfl) (by simp)
    | plus => exact NDS_cons rfl
    | minus => exact NDS_cons rfl

theorem num_pos {s lead : Bool} {lo hi : Int} {w : List Nat} {v : Int} (h : num s lead lo hi w v) : 1 ≤ w.length := by
  obtain ⟨ws, sg, ds, rfl, _, hds, _⟩ := h
  have := List.length_pos_iff.mpr hds.1
  simp only [List.length_append]; omega

theorem Safe.num (lo hi : Int) : Safe (fun s => num s true lo hi) := fun _ _ k hw _ => num_nds hw k

theorem Spec.bind {α β : Type} {p : P α} {g : α × AS → Except Nat (β × AS)} {L1 : Bool → Lang α} {L2 : α → Bool → Lang β}
    (hp : Spec p L1) (hg : ∀ x, Spec (fun a' => g (x, a')) (L2 x)) :
    Spec (fun a => p a >>= g) (fun s => seq (L1 s) (fun x => L2 x s)) := by
  have hs : ∀ x, Safe (L2 x) := fun x => (hg x).safe
  refine ⟨?_, ?_, Safe.seq hp.safe hs⟩
  · intro a y a' e
    cases h : p a with
    | error l => rw [h] at e; cases e
    | ok r =>
      obtain ⟨x, a1⟩ := r
      rw [h] at e
      obtain ⟨w1, e1, l1⟩ := hp.sound a x a1 h
      obtain ⟨w2, e2, l2⟩ := (hg x).sound a1 y a' e
      exact ⟨w1 ++ w2, by rw [e1, e2, List.append_assoc], w1, w2, x, rfl, l1, l2⟩
  · rintro w y a k ⟨w1, w2, x, rfl, l1, l2⟩ hr hk
    obtain ⟨a1, e1, r1⟩ := hp.complete w1 x a (w2 ++ k) l1 (by rw [hr, List.append_assoc]) (hs x w2 y k l2 hk)
    obtain ⟨a2, e2, r2⟩ := (hg x).complete w2 y a1 k l2 r1 hk
    refine ⟨a2, ?_, r2⟩
    show (p a >>= g) = _
    rw [e1]; exact e2

theorem Spec.pure {α : Type} (x : α) : Spec (fun a => (Pure.pure (x, a) : Except Nat (α × AS))) (fun _ => ret x) := by
  refine ⟨?_, ?_, Safe.ret x⟩
  · intro a y a' e; cases e; exact ⟨[], rfl, rfl, rfl⟩
  · rintro w y a k ⟨rfl, rfl⟩ hr _; exact ⟨a, rfl, hr⟩

theorem Spec.ok {α : Type} (x : α) : Spec (fun a => (.ok (x, a) : Except Nat (α × AS))) (fun _ => ret x) := Spec.pure x

theorem Spec.error {α : Type} : Spec (fun a => (.error a.line : Except Nat (α × AS))) (fun _ => none') := by
  refine ⟨?_, ?_, Safe.none'⟩
  · intro a y a' e; cases e
  · intro w y a k hw; exact hw.elim

theorem Spec.ite {α : Type} (c : Prop) [Decidable c] {p q : P α} {L1 L2 : Bool → Lang α} (hp : Spec p L1) (hq : Spec q L2) :
    Spec (fun a => if c then p a else q a) (fun s => if c then L1 s else L2 s) := by
  by_cases h : c <;> simp only [h, ↓reduceIte]
  · exact hp
  · exact hq

theorem Spec.of_iff {α : Type} {p : P α} {L L' : Bool → Lang α} (h : Spec p L) (e : ∀ s w x, L' s w x ↔ L s w x) : Spec p L' :=
  ⟨fun a x a' hp => let ⟨w, e1, hl⟩ := h.sound a x a' hp; ⟨w, e1, (e _ _ _).mpr hl⟩,
   fun w x a k hw => h.complete w x a k ((e _ _ _).mp hw),
   fun w x k hw => h.safe w x k ((e _ _ _).mp hw)⟩

theorem get_inv (a : AS) : ∃ sep, a.rest = sep ++ a.get.2.rest ∧ sep.length ≤ 2 := by
  rcases a.get_cases with ⟨_, _, h, _⟩ | ⟨_, _, h | h | ⟨h, _⟩⟩ | ⟨h, _⟩
  · exact ⟨[], h.symm, Nat.zero_le 2⟩
  · exact ⟨[10], h, Nat.le_succ 1⟩
  · exact ⟨[13, 10], h, Nat.le_refl 2⟩
  · exact ⟨[13], h, Nat.le_succ 1⟩
  · exact ⟨[a.get.1], h, Nat.le_succ 1⟩

theorem skipWs_max (a : AS) : ∃ ws, a.rest = ws ++ a.skipWs.rest ∧ Filler ws ∧ NWS a.skipWs.rest := by
  refine ⟨a.rest.takeWhile isWs, by rw [skipWs_rest, List.takeWhile_append_dropWhile], BufferedStream.takeWhile_mem _ _, ?_⟩
  rw [skipWs_rest]; exact BufferedStream.dropWhile_head _ _

theorem skipWs_inv (a : AS) : ∃ ws, a.rest = ws ++ a.skipWs.rest ∧ Filler ws :=
  let ⟨ws, e, h, _⟩ := skipWs_max a; ⟨ws, e, h⟩

theorem _root_.PotasscoVerif.C03.skipWs_nws (a : AS) : NWS a.skipWs.rest := let ⟨_, _, _, h⟩ := skipWs_max a; h

theorem matchIntDigits_inv {a1 : AS} {sg : Nat} {v : Int} {a' : AS} (h : a1.matchIntDigits sg = (.val v, a')) :
    ∃ ds, a1.rest = ds ++ a'.rest ∧ Digits ds ∧ NDS a'.rest := by
  rw [AS.matchIntDigits] at h
  by_cases hd : isDigit a1.peek = true
  · rw [hd] at h
    cases h
    refine ⟨_, (BufferedStream.digitRun_append _).symm, ⟨BufferedStream.digitRun_ne_nil hd, BufferedStream.digitRun_digits _⟩, ?_⟩
    rw [BufferedStream.digitRun_eq]; exact BufferedStream.dropWhile_head _ _
  · rw [Bool.eq_false_iff.mpr hd] at h
    cases h

/-- the shape only; the value is that of `C03_number_exact` -/
theorem matchInt_inv {a : AS} {v : Int} {a' : AS} (h : a.matchInt false = (.val v, a')) :
    ∃ ws sg ds, a.rest = ws ++ (Sign.text sg ++ (ds ++ a'.rest)) ∧ Filler ws ∧ Digits ds ∧ NDS a'.rest := by
  obtain ⟨ws, ews, hws⟩ := skipWs_inv a
  rw [AS.matchInt, if_neg Bool.false_ne_true, AS.matchIntCore] at h
  obtain ⟨ds, e, hds, hk⟩ := matchIntDigits_inv h
  refine ⟨ws, ?_⟩
  generalize a.skipWs = a0 at ews e
  split at e
  · rename_i hs
    rcases hr : a0.rest with _ | ⟨c, r⟩
    · simp [AS.peek, hr] at hs
    · rw [hr] at e
      simp [AS.peek, hr] at hs
      rcases hs with rfl | rfl
      · exact ⟨.plus, ds, by rw [ews, hr, ← e]; rfl, hws, hds, hk⟩
      · exact ⟨.minus, ds, by rw [ews, hr, ← e]; rfl, hws, hds, hk⟩
  · exact ⟨.none, ds, by rw [ews, e]; rfl, hws, hds, hk⟩

/-- `matchInt`, then a test of the value: the common form of `intIn` and `lit` -/
def intIf (c : Int → Prop) [DecidablePred c] : P Int := fun a =>
  match a.matchInt false with
  | (.val v, a') => if c v then .ok (v, a') else .error a'.line
  | (.fail, a') => .error a'.line

theorem intIn_eq (lo hi : Int) : intIn lo hi = intIf (fun v => lo ≤ v ∧ v ≤ hi) := by unfold intIn intIf; rfl
theorem lit_eq : lit = intIf (fun v => v ≠ 0 ∧ -(Gen.atomMax : Int) ≤ v ∧ v ≤ Gen.atomMax) := by unfold lit intIf; rfl

theorem intIf_ok {c : Int → Prop} [DecidablePred c] {a : AS} {v : Int} {a' : AS} :
    intIf c a = .ok (v, a') ↔ a.matchInt false = (.val v, a') ∧ c v := by
  unfold intIf
  split
  · rename_i v' a0 h
    rw [h]
    split
    · rename_i hc
      exact ⟨fun e => by cases e; exact ⟨rfl, hc⟩, fun e => by cases e.1; rfl⟩
    · rename_i hc
      exact ⟨nofun, fun e => by cases e.1; exact absurd e.2 hc⟩
  · rename_i a0 h
    rw [h]
    exact ⟨nofun, fun e => by cases e.1⟩

theorem intIn_sound (lead : Bool) (lo hi : Int) (hlo : -(I64MAX : Int) < lo) (hhi : hi < I64MAX) (a : AS) (v : Int) (a' : AS)
    (h : AspifIn.intIn lo hi a = .ok (v, a')) : ∃ w, a.rest = w ++ a'.rest ∧ num false lead lo hi w v := by
  have ⟨hm, hr⟩ := intIf_ok.mp (intIn_eq lo hi ▸ h)
  obtain ⟨ws, sg, ds, e, hws, hds, hk⟩ := matchInt_inv hm
  have hv := (C03.C03_number_exact lo hi a sg ds ws a'.rest e hws hds.2 hds.1 hk hlo hhi v a' h).1
  exact ⟨ws ++ (Sign.text sg ++ ds), by rw [e, List.append_assoc, List.append_assoc], ws, sg, ds, rfl, hws, hds, hv, hr.1, hr.2, nofun⟩

theorem intIn_complete (lead : Bool) (lo hi : Int) (hlo : -(I64MAX : Int) < lo) (hhi : hi < I64MAX) (w : List Nat) (v : Int) (a : AS) (k : List Nat)
    (hw : num true lead lo hi w v) (hr : a.rest = w ++ k) (hk : NDS k) : ∃ a', AspifIn.intIn lo hi a = .ok (v, a') ∧ a'.rest = k := by
  obtain ⟨ws, sg, ds, rfl, hws, hds, rfl, hv⟩ := hw
  obtain ⟨a', r, e⟩ := intIn_token lo hi a sg ds ws k (by rw [hr, List.append_assoc, List.append_assoc]) hws hds.2 hds.1 hk hlo hhi
  exact ⟨a', e.trans (if_pos ⟨hv.1, hv.2.1⟩), r⟩

theorem Spec.intIn (lo hi : Int) (hlo : -(I64MAX : Int) < lo) (hhi : hi < I64MAX) : Spec (AspifIn.intIn lo hi) (fun s => num s true lo hi) :=
  ⟨intIn_sound true lo hi hlo hhi, intIn_complete true lo hi hlo hhi, Safe.num lo hi⟩

def numN (s lead : Bool) (m : Nat) : Lang Nat := fun w n => num s lead 0 m w (n : Int)
def posL (s : Bool) : Lang Nat := numN s true U32MAX
def atomL (s : Bool) : Lang Nat := fun w n => num s true 1 2147483647 w (n : Int)
def litL (s : Bool) : Lang Int := fun w v => num s true (-2147483647) 2147483647 w v ∧ v ≠ 0
def wlitL (s : Bool) (minW : Int) : Lang (Int × Int) := seq (litL s) (fun l => seq (num s true minW I32MAX) (fun w => ret (l, w)))

theorem I64MAX_eq : I64MAX = 9223372036854775807 := rfl

/-- the common form of `posMax m` (`natIn 0 m`) and `atom` -/
def natIn (lo hi : Nat) : P Nat := fun a => do
  let (v, a') ← AspifIn.intIn lo hi a
  pure (v.toNat, a')

theorem natIn_ok {lo hi : Nat} {a : AS} {n : Nat} {a' : AS} : natIn lo hi a = .ok (n, a') ↔ AspifIn.intIn lo hi a = .ok ((n : Int), a') := by
  unfold natIn
  cases h : AspifIn.intIn lo hi a with
  | error l => exact ⟨nofun, nofun⟩
  | ok r =>
    have h0 := (intIf_ok.mp (intIn_eq lo hi ▸ h)).2.1
    constructor
    · intro e; cases e; rw [Int.toNat_of_nonneg (by omega)]
    · intro e; cases e; rfl

theorem posMax_sound (lead : Bool) (m : Nat) (hm : (m : Int) < I64MAX) (a : AS) (n : Nat) (a' : AS) (h : posMax m a = .ok (n, a')) :
    ∃ w, a.rest = w ++ a'.rest ∧ numN false lead m w n :=
  intIn_sound lead 0 m (by rw [I64MAX_eq]; omega) hm a n a' (natIn_ok.mp h)

theorem posMax_complete (lead : Bool) (m : Nat) (hm : (m : Int) < I64MAX) (w : List Nat) (n : Nat) (a : AS) (k : List Nat)
    (hw : numN true lead m w n) (hr : a.rest = w ++ k) (hk : NDS k) : ∃ a', posMax m a = .ok (n, a') ∧ a'.rest = k :=
  let ⟨a', e, r⟩ := intIn_complete lead 0 m (by rw [I64MAX_eq]; omega) hm w n a k hw hr hk; ⟨a', natIn_ok.mpr e, r⟩

theorem Spec.posMax (m : Nat) (hm : (m : Int) < I64MAX) : Spec (AspifIn.posMax m) (fun s => numN s true m) :=
  ⟨posMax_sound true m hm, posMax_complete true m hm, fun _ _ k hw _ => num_nds hw k⟩

theorem Spec.pos : Spec AspifIn.pos posL := Spec.posMax _ (by decide)

theorem Spec.atom : Spec AspifIn.atom atomL :=
  ⟨fun a n a' h => intIn_sound true Gen.atomMin Gen.atomMax (by decide) (by decide) a n a' (natIn_ok.mp h),
   fun w n a k hw hr hk =>
    let ⟨a', e, r⟩ := intIn_complete true Gen.atomMin Gen.atomMax (by decide) (by decide) w n a k hw hr hk; ⟨a', natIn_ok.mpr e, r⟩,
   fun _ _ k hw _ => num_nds hw k⟩

theorem lit_ok_iff (a : AS) (v : Int) (a' : AS) : AspifIn.lit a = .ok (v, a') ↔ AspifIn.intIn (-2147483647) 2147483647 a = .ok (v, a') ∧ v ≠ 0 := by
  rw [lit_eq, intIn_eq, intIf_ok, intIf_ok]
  exact ⟨fun ⟨h, h0, hr⟩ => ⟨⟨h, hr⟩, h0⟩, fun ⟨⟨h, hr⟩, h0⟩ => ⟨h, h0, hr⟩⟩

theorem Spec.lit : Spec AspifIn.lit litL := by
  refine ⟨?_, ?_, fun _ _ k hw _ => num_nds hw.1 k⟩
  · intro a v a' h
    obtain ⟨h1, h0⟩ := (lit_ok_iff a v a').mp h
    obtain ⟨w, e, hl⟩ := intIn_sound true _ _ (by decide) (by decide) a v a' h1
    exact ⟨w, e, hl, h0⟩
  · intro w v a k hw hr hk
    obtain ⟨a1, e1, r1⟩ := intIn_complete true _ _ (by decide) (by decide) w v a k hw.1 hr hk
    exact ⟨a1, (lit_ok_iff a v a1).mpr ⟨e1, hw.2⟩, r1⟩

theorem Spec.wlit (minW : Int) (hlo : -(I64MAX : Int) < minW) : Spec (AspifIn.wlit minW) (fun s => wlitL s minW) := by
  unfold AspifIn.wlit
  exact Spec.bind Spec.lit (fun l => Spec.bind (Spec.intIn minW I32MAX hlo (by decide)) (fun w => Spec.pure _))

def repL {α : Type} (L : Lang α) : Nat → Lang (List α)
  | 0 => ret []
  | n + 1 => seq L (fun x => seq (repL L n) (fun l => ret (x :: l)))

theorem Spec.rep {α : Type} {p : P α} {L : Bool → Lang α} (hp : Spec p L) :
    ∀ (n : Nat) (acc : List α), Spec (AspifIn.rep p n acc) (fun s w l => ∃ l', repL (L s) n w l' ∧ l = acc.reverse ++ l') := by
  intro n
  induction n with
  | zero =>
    intro acc
    refine Spec.of_iff (Spec.ok acc.reverse) fun s w l => ?_
    exact ⟨fun ⟨l', ⟨hw, hl'⟩, e⟩ => ⟨hw, by rw [e, hl', List.append_nil]⟩, fun ⟨hw, e⟩ => ⟨[], ⟨hw, rfl⟩, by rw [e, List.append_nil]⟩⟩
  | succ n ih =>
    intro acc
    refine Spec.of_iff (Spec.bind hp fun x => ih (x :: acc)) fun s w l => ?_
    constructor
    · rintro ⟨l', ⟨w1, w2, x, ew, h1, w3, w4, l2, rfl, h2, rfl, rfl⟩, rfl⟩
      exact ⟨w1, w3, x, by rw [ew, List.append_nil], h1, l2, h2, by rw [List.reverse_cons, List.append_assoc]; rfl⟩
    · rintro ⟨w1, w2, x, ew, h1, l2, h2, rfl⟩
      exact ⟨x :: l2, ⟨w1, w2, x, ew, h1, w2, [], l2, (List.append_nil _).symm, h2, rfl, rfl⟩, by rw [List.reverse_cons, List.append_assoc]; rfl⟩

theorem Spec.rep0 {α : Type} {p : P α} {L : Bool → Lang α} (hp : Spec p L) (n : Nat) : Spec (AspifIn.rep p n []) (fun s => repL (L s) n) := by
  refine Spec.of_iff (Spec.rep hp n []) fun s w l => ⟨fun h => ⟨l, h, rfl⟩, ?_⟩
  rintro ⟨l', h, rfl⟩; exact h

def countedL {α : Type} (s : Bool) (L : Bool → Lang α) : Lang (List α) := seq (posL s) (fun n => repL (L s) n)

theorem Spec.counted {α : Type} {p : P α} {L : Bool → Lang α} (hp : Spec p L) : Spec (AspifIn.counted p) (fun s => countedL s L) := by
  unfold AspifIn.counted
  exact Spec.bind Spec.pos (fun n => Spec.rep0 hp n)

def atomsL (s : Bool) : Lang (List Nat) := countedL s atomL
def litsL (s : Bool) : Lang (List Int) := countedL s litL
def idsL (s : Bool) : Lang (List Nat) := countedL s posL
/-- weighted literals; those of weight 0 are not delivered -/
def wlitsL (s : Bool) (minW : Int) : Lang (List (Int × Int)) := seq (countedL s (fun s => wlitL s minW)) (fun l => ret (l.filter (fun p => p.2 ≠ 0)))

theorem Spec.atoms : Spec AspifIn.atoms atomsL := Spec.counted Spec.atom
theorem Spec.lits : Spec AspifIn.lits litsL := Spec.counted Spec.lit
theorem Spec.ids : Spec AspifIn.ids idsL := Spec.counted Spec.pos
theorem Spec.wlits (minW : Int) (hlo : -(I64MAX : Int) < minW) : Spec (AspifIn.wlits minW) (fun s => wlitsL s minW) := by
  unfold AspifIn.wlits
  exact Spec.bind (Spec.counted (Spec.wlit minW hlo)) (fun l => Spec.pure _)

/-- the separator between the length and the bytes: one blank (strict); whatever one `get` extracts (lenient) -/
def SepOk (s : Bool) (sep : List Nat) : Prop := if s then sep = [32] else sep.length ≤ 2

def strL (s : Bool) : Lang (List Nat) := fun w bs =>
  ∃ w1 sep, w = w1 ++ (sep ++ bs) ∧ posL s w1 bs.length ∧ SepOk s sep ∧ ∀ c ∈ bs, c ≠ 0

theorem copy_inv (a : AS) (n : Nat) : a.rest = (a.copy n).1 ++ (a.copy n).2.rest ∧ ∀ c ∈ (a.copy n).1, c ≠ 0 :=
  ⟨(List.prefix_iff_eq_append.mp ((List.take_prefix _ _).trans (List.takeWhile_prefix _))).symm,
    fun c hc => by simpa using BufferedStream.takeWhile_mem _ _ c (List.mem_of_mem_take hc)⟩

theorem copy_spec {a : AS} {bs k : List Nat} (h : a.rest = bs ++ k) (hn : ∀ c ∈ bs, c ≠ 0) :
    a.copy bs.length = (bs, { a with rest := k, canUnget := decide (0 < bs.length) }) := by
  rw [AS.copy, h, List.takeWhile_append_of_pos fun c hc => bne_iff_ne.mpr (hn c hc), List.take_left' rfl, List.drop_left]

/-- the part of `string` after the length: one separator character, then exactly `n` raw bytes -/
def bytes (n : Nat) : P (List Nat) := fun a =>
  if (a.get.2.copy n).1.length = n then .ok (a.get.2.copy n) else .error (a.get.2.copy n).2.line

def bytesL (n : Nat) (s : Bool) : Lang (List Nat) := fun w bs => ∃ sep, w = sep ++ bs ∧ bs.length = n ∧ SepOk s sep ∧ ∀ c ∈ bs, c ≠ 0

theorem bytes_blank {a : AS} {bs k : List Nat} (hr : a.rest = 32 :: (bs ++ k)) (hn : ∀ c ∈ bs, c ≠ 0) :
    ∃ a', bytes bs.length a = .ok (bs, a') ∧ a'.rest = k := by
  have hc := copy_spec (a := a.get.2) (by rw [AS.get_plain hr (by decide) (by decide) (by decide)]) hn
  exact ⟨_, by unfold AspifLang.bytes; rw [hc, if_pos rfl], rfl⟩

theorem Spec.bytes (n : Nat) : Spec (bytes n) (bytesL n) := by
  refine ⟨?_, ?_, ?_⟩
  · intro a bs a' h
    unfold AspifLang.bytes at h
    split at h
    · rename_i hn
      obtain ⟨sep, e2, hsep⟩ := get_inv a
      have ⟨e3, h0⟩ := copy_inv a.get.2 n
      rw [Except.ok.inj h] at e3 h0 hn
      exact ⟨sep ++ bs, by rw [e2, e3, List.append_assoc], sep, rfl, hn, hsep, h0⟩
    · cases h
  · rintro w bs a k ⟨sep, rfl, rfl, rfl, hn⟩ hr _
    exact bytes_blank hr hn
  · rintro w bs k ⟨sep, rfl, _, rfl, _⟩ _
    exact NDS_cons rfl

theorem Spec.string : Spec AspifIn.string strL := by
  refine Spec.of_iff (Spec.bind Spec.pos Spec.bytes) fun s w bs => ?_
  constructor
  · rintro ⟨w1, sep, rfl, h1, h2, h3⟩; exact ⟨w1, _, _, rfl, h1, sep, rfl, rfl, h2, h3⟩
  · rintro ⟨w1, _, _, rfl, h1, sep, rfl, rfl, h2, h3⟩; exact ⟨w1, sep, rfl, h1, h2, h3⟩

section
open PotasscoVerif.AspifOut PotasscoVerif.AspifRT

theorem num_printInt (lead : Bool) (lo hi v : Int) (h : lo ≤ v ∧ v ≤ hi) (ws : List Nat) (hws : Filler ws) (hl : lead = true → ws ≠ []) :
    num true lead lo hi (ws ++ printInt v) v :=
  ⟨ws, _, printNat v.natAbs, by rw [printInt_eq], hws, ⟨printNat_ne_nil _, printNat_digits _⟩,
    by rw [denoted, val_printNat, Sign.apply_natAbs], h.1, h.2, fun _ h => Or.inl (hl h)⟩

theorem num_printNat (lead : Bool) (lo hi : Int) (n : Nat) (h : lo ≤ n ∧ (n : Int) ≤ hi) (ws : List Nat) (hws : Filler ws) (hl : lead = true → ws ≠ []) :
    num true lead lo hi (ws ++ printNat n) n := printInt_nat n ▸ num_printInt lead lo hi n h ws hws hl

theorem num_addI (lo hi v : Int) (h : lo ≤ v ∧ v ≤ hi) : num true true lo hi (addI v) v :=
  num_printInt true lo hi v h sp sp_ws fun _ => List.cons_ne_nil _ _
theorem num_addN (lo hi : Int) (n : Nat) (h : lo ≤ n ∧ (n : Int) ≤ hi) : num true true lo hi (addN n) n :=
  addN_eq n ▸ num_addI lo hi n h
theorem numN_addN {m n : Nat} (h : n ≤ m) : numN true true m (addN n) n := num_addN 0 m n ⟨Int.natCast_nonneg n, Int.ofNat_le.mpr h⟩
theorem numN_addI {m : Nat} {v : Int} (h : 0 ≤ v ∧ v ≤ m) : numN true true m (addI v) v.toNat :=
  show num true true 0 m (addI v) (v.toNat : Int) from (Int.toNat_of_nonneg h.1).symm ▸ num_addI 0 m v h
theorem numN_printNat (lead : Bool) {m n : Nat} (h : n ≤ m) {ws : List Nat} (hws : Filler ws) (hl : lead = true → ws ≠ []) :
    numN true lead m (ws ++ printNat n) n := num_printNat lead 0 m n ⟨Int.natCast_nonneg n, Int.ofNat_le.mpr h⟩ ws hws hl
/-- the `0` that ends a rule section, a symbol table, a compute statement of smodels format -/
theorem numN_zero (lead : Bool) (m : Nat) {ws : List Nat} (hws : Filler ws) (hl : lead = true → ws ≠ []) : numN true lead m (ws ++ str "0") 0 :=
  (by decide +kernel : printNat 0 = str "0") ▸ numN_printNat lead (Nat.zero_le m) hws hl
theorem posL_addN {x : Nat} (h : x ≤ U32MAX) : posL true (addN x) x := numN_addN h
theorem atomL_addN {x : Nat} (h : atomOk x) : atomL true (addN x) x := num_addN 1 2147483647 x (by unfold atomOk at h; omega)
theorem litL_addI {v : Int} (h : litOk v) : litL true (addI v) v := ⟨num_addI _ _ v (by unfold litOk at h; omega), h.1⟩

theorem repL_enc {α : Type} (L : Lang α) (enc : α → List Nat) : ∀ (l : List α), (∀ x ∈ l, L (enc x) x) → repL L l.length ((l.map enc).flatten) l
  | [], _ => ⟨rfl, rfl⟩
  | x :: r, h => seq_intro (h x List.mem_cons_self) (seq_ret _ (repL_enc L enc r fun y hy => h y (List.mem_cons_of_mem _ hy)))

theorem countedL_enc {α : Type} (L : Bool → Lang α) (enc : α → List Nat) (l : List α) (hl : lenOk l) (h : ∀ x ∈ l, L true (enc x) x) :
    countedL true L (addN l.length ++ (l.map enc).flatten) l := seq_intro (posL_addN hl) (repL_enc _ enc l h)

theorem atomsL_addNats {l : List Nat} (hl : lenOk l) (h : ∀ x ∈ l, atomOk x) : atomsL true (addNats l) l :=
  countedL_enc atomL addN l hl fun x hx => atomL_addN (h x hx)
theorem idsL_addNats {l : List Nat} (hl : lenOk l) (h : ∀ x ∈ l, x ≤ U32MAX) : idsL true (addNats l) l :=
  countedL_enc posL addN l hl fun x hx => posL_addN (h x hx)
theorem litsL_addLits {l : List Int} (hl : lenOk l) (h : ∀ x ∈ l, litOk x) : litsL true (addLits l) l :=
  countedL_enc litL addI l hl fun x hx => litL_addI (h x hx)
theorem wlitsL_addWLits (minW : Int) {l : List (Int × Int)} (hl : lenOk l) (h : ∀ p ∈ l, litOk p.1 ∧ minW ≤ p.2 ∧ p.2 ≤ I32MAX) :
    wlitsL true minW (addWLits l) (l.filter fun p => p.2 ≠ 0) :=
  seq_ret _ (countedL_enc (fun s => wlitL s minW) _ l hl fun p hp => seq_intro (litL_addI (h p hp).1) (seq_ret _ (num_addI _ _ p.2 (h p hp).2)))

theorem strL_addStr {s : List Nat} (hl : lenOk s) (hn : ∀ c ∈ s, c ≠ 0) : strL true (addStr s) s :=
  ⟨addN s.length, sp, List.append_assoc .., posL_addN hl, rfl, hn⟩
end

end PotasscoVerif.AspifLang
