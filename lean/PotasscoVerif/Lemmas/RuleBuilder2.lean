/-
  C11, the operations: each operation of the rule builder preserves the relation `R` (Lemmas/RuleBuilder.lean) wherever the
  specification accepts it.
-/
import PotasscoVerif.Lemmas.RuleBuilder
namespace PotasscoVerif.RuleBuilder
open PotasscoVerif.RuleSpec

theorem start_ref {c a a'} (h0 : R c a) (ht : Nat) (hs : a.start ht = some a') :
    ∃ c', c.start ht = some c' ∧ R c' a' := by
  have h := R_unfreeze h0 true
  unfold AR.start at hs
  unfold RB.start
  generalize a.unfreeze true = a1 at h hs
  generalize c.unfreeze true = c1 at h
  have hlen : (c1.head.len == 0) = a1.head.isEmpty := by rw [h.head_len]; cases a1.head <;> rfl
  simp only [h.head_zero.1, hlen, Bool.not_or, Bool.not_not] at hs ⊢
  obtain ⟨hht, hs⟩ := Option.ite_none_left_eq_some.mp hs
  obtain ⟨hg, hs⟩ := Option.ite_none_left_eq_some.mp hs
  cases hs
  rw [if_neg hg]
  exact ⟨_, rfl, { h with
    h_un := nofun
    h_st := fun _ => ⟨h.top_ge, Nat.le_refl _, Nat.le_refl _, rfl, words_self _ _⟩
    last_h := fun _ => ⟨rfl, rfl, fun _ => h.body_le⟩
    last_b := nofun
    last_n := nofun
    min_sum := fun h2 => absurd (Nat.le_of_eq h2.symm) hht }⟩

theorem addHead_ref {c a a'} (h : R c a) (x : Int) (hs : a.addHead x = some a') :
    ∃ c', c.addHead x = some c' ∧ R c' a' := by
  unfold AR.addHead at hs
  unfold RB.addHead
  obtain ⟨hfr, hs⟩ := Option.ite_none_left_eq_some.mp hs
  have p := pushAt_spec c.mem c.top x h.top_ge h.top_le h.noviol
  rw [if_neg (h.fix ▸ hfr), h.head_zero.2]
  cases hst : a.hStarted with
  | false =>
    -- an `addHead` before any `start` opens a disjunctive head
    rw [hst] at hs
    cases hs
    simp only [Bool.not_false, ↓reduceIte, ge_iff_le, decide_eq_true h.body_le, Bool.not_true, Bool.false_eq_true]
    exact ⟨_, rfl, { h with
      noviol := p.viol
      top_ge := Nat.le_succ_of_le h.top_ge
      top_le := p.size
      h_un := nofun
      h_st := fun _ => ⟨h.top_ge, Nat.le_succ _, Nat.le_refl _, rfl,
        (p.words c.top (Nat.le_refl _)).trans (by rw [words_self]; rfl)⟩
      b_st := fun hb => h.body_below hb p.below (Nat.le_succ _)
      last_h := fun _ => ⟨rfl, rfl, fun _ => h.body_le⟩
      last_b := nofun
      last_n := nofun
      min_sum := nofun }⟩
  | true =>
    rw [if_neg (by rw [hst]; exact Bool.false_ne_true)] at hs
    obtain ⟨hl, hs⟩ := Option.ite_none_left_eq_some.mp hs
    have hl : a.last = .head := by simpa using hl
    cases hs
    obtain ⟨hlo, hle, -, hty, hws⟩ := h.h_st hst
    obtain ⟨-, htop, -⟩ := h.last_h hl
    simp only [Bool.not_true, Bool.false_eq_true, ↓reduceIte, ge_iff_le, decide_eq_true (h.body_below_head hl)]
    exact ⟨_, rfl, { h with
      noviol := p.viol
      top_ge := Nat.le_succ_of_le h.top_ge
      top_le := p.size
      h_un := fun hf => nomatch hst.symm.trans hf
      h_st := fun _ => ⟨hlo, Nat.le_succ_of_le (htop ▸ hle), Nat.le_refl _, hty,
        (p.words _ (htop ▸ hle)).trans (by rw [← htop, hws])⟩
      b_st := fun hb => h.body_below hb p.below (Nat.le_succ _)
      last_h := fun _ => ⟨hst, rfl, (h.last_h hl).2.2⟩
      last_b := fun hb => nomatch hl.symm.trans hb }⟩

theorem startBodyT_ref {c a a'} (h0 : R c a) (bt : Nat) (bnd : Int) (hs : a.startBodyT bt bnd = some a') :
    ∃ c', c.startBodyT bt bnd = some c' ∧ R c' a' := by
  have h := R_unfreeze h0 true
  unfold AR.startBodyT at hs
  unfold RB.startBodyT
  generalize a.unfreeze true = a1 at h hs
  generalize c.unfreeze true = c1 at h
  have hlen : (c1.body.len == 0) = a1.body.isEmpty := by rw [h.body_len]; exact isEmpty_enc _ _
  simp only [h.body_zero.2, hlen] at hs ⊢
  cases hbs : a1.bStarted with
  | true =>
    simp only [hbs, Bool.not_true, Bool.false_eq_true, ↓reduceIte] at hs ⊢
    obtain ⟨he, hs⟩ := Option.ite_none_right_eq_some.mp hs
    cases hs
    exact ⟨_, if_pos he, h⟩
  | false =>
    simp only [hbs, Bool.not_false, ↓reduceIte] at hs ⊢
    cases hs
    have hnot2 : a1.ht ≠ 2 := fun h2 => h.min_sum h2 (h.b_un hbs).2.2
    by_cases hbt : bt = 0
    · subst hbt
      exact ⟨_, rfl, h.open_body hbs⟩
    · have p := pushAt_spec c1.mem c1.top bnd h.top_ge h.top_le h.noviol
      rw [if_pos (bne_iff_ne.mpr hbt)]
      exact ⟨_, rfl, { h with
        noviol := p.viol
        top_ge := Nat.le_succ_of_le h.top_ge
        top_le := p.size
        h_st := fun hs => h.head_below hs p.below (Nat.le_succ _)
        b_un := nofun
        b_st := fun _ => ⟨by rw [if_neg hbt]; exact Nat.succ_le_succ h.top_ge, Nat.le_refl _, Nat.le_refl _, rfl,
          (words_self _ _).trans (enc_nil bt).symm, fun _ => by
            rw [show (bt == 0) = false from beq_false_of_ne hbt]
            exact p.rd⟩
        w1 := fun _ _ => nofun
        last_h := nofun
        last_b := fun _ => ⟨rfl, rfl, fun _ => by rw [if_neg hbt]; exact Nat.succ_le_succ h.head_le⟩
        last_n := nofun
        min_sum := fun h2 => absurd h2 hnot2 }⟩

theorem startMinimize_ref {c a a'} (h0 : R c a) (p : Int) (hs : a.startMinimize p = some a') :
    ∃ c', c.startMinimize p = some c' ∧ R c' a' := by
  have h := R_unfreeze h0 true
  unfold AR.startMinimize at hs
  unfold RB.startMinimize
  generalize a.unfreeze true = a1 at h hs
  generalize c.unfreeze true = c1 at h
  simp only [h.head_zero.1, h.body_zero.1, Bool.not_and, Bool.not_not] at hs ⊢
  obtain ⟨hg, hs⟩ := Option.ite_none_left_eq_some.mp hs
  cases hs
  have pu := pushAt_spec c1.mem c1.top p h.top_ge h.top_le h.noviol
  rw [if_neg hg]
  exact ⟨_, rfl, { h with
    noviol := pu.viol
    top_ge := Nat.le_succ_of_le h.top_ge
    top_le := pu.size
    h_un := nofun
    h_st := fun _ => ⟨h.top_ge, Nat.le_refl _, Nat.le_succ _, rfl, words_self _ _⟩
    b_un := nofun
    b_st := fun _ => ⟨Nat.succ_le_succ h.top_ge, Nat.le_refl _, Nat.le_refl _, rfl, words_self _ _,
      fun _ => pu.rd⟩
    w1 := nofun
    last_h := nofun
    last_b := fun _ => ⟨rfl, rfl, fun _ => Nat.le_refl _⟩
    last_n := nofun
    min_sum := fun _ => nofun }⟩

theorem addGoal_started {c a a'} (h : R c a) (hbs : a.bStarted = true) (l w : Int) (hs : a.addGoal l w = some a') :
    ∃ c', c.addGoal l w = some c' ∧ R c' a' := by
  unfold AR.addGoal at hs
  unfold RB.addGoal
  obtain ⟨hfr, hs⟩ := Option.ite_none_left_eq_some.mp hs
  rw [if_neg (by rw [hbs]; exact Bool.false_ne_true)] at hs
  obtain ⟨hl, hs⟩ := Option.ite_none_left_eq_some.mp hs
  have hl : a.last = .body := by simpa using hl
  have hmb : (c.body.mbeg == 0) = false := by rw [h.body_zero.1, hbs]; rfl
  rw [if_neg (h.fix ▸ hfr)]
  simp only [hmb, Bool.false_eq_true, ↓reduceIte, ge_iff_le, decide_eq_true (h.head_below_body hl), Bool.not_true]
  by_cases hw : (w == 0) = true
  · rw [if_pos hw] at hs ⊢
    cases hs
    exact ⟨_, rfl, h⟩
  rw [if_neg hw] at hs ⊢
  cases hs
  obtain ⟨hlo, hle, -, hty, hws, -⟩ := h.b_st hbs
  obtain ⟨-, htop, hhd⟩ := h.last_b hl
  have p := pushAt_spec c.mem c.top l h.top_ge h.top_le h.noviol
  have hle' : c.body.mbeg ≤ c.top := htop ▸ hle
  have hext := (p.words c.body.mbeg hle').trans
    (congrArg (· ++ [l]) (show c.mem.words c.body.mbeg c.top = enc a.bt a.body from htop ▸ hws))
  by_cases hbt : a.bt = 0
  · rw [if_pos (show (c.body.type == 0) = true by rw [hty, hbt]; rfl),
      if_pos (show (a.bt == 0) = true by rw [hbt]; rfl)]
    exact ⟨_, rfl, { h with
      noviol := p.viol
      top_ge := Nat.le_succ_of_le h.top_ge
      top_le := p.size
      h_st := fun hs => h.head_below hs p.below (Nat.le_succ _)
      b_un := fun hf => nomatch hbs.symm.trans hf
      b_st := fun _ => ⟨hlo, Nat.le_succ_of_le hle', Nat.le_refl _, hty,
        hext.trans (by rw [enc_append, if_pos hbt]), fun hne => absurd hbt hne⟩
      w1 := fun _ p hp => (List.mem_append.mp hp).elim (h.w1 hbt p) fun hm => by rw [List.mem_singleton.mp hm]
      last_h := fun hh => nomatch hl.symm.trans hh
      last_b := fun _ => ⟨hbs, rfl, hhd⟩ }⟩
  · rw [if_neg (show ¬(c.body.type == 0) = true by rw [hty]; exact fun e => hbt (beq_iff_eq.mp e)),
      if_neg (show ¬(a.bt == 0) = true from fun e => hbt (beq_iff_eq.mp e))]
    have p2 := pushAt_spec _ (c.top + 1) w (Nat.le_succ_of_le h.top_ge) p.size p.viol
    have hm2 := p.below.trans p2.below (Nat.le_succ _)
    exact ⟨_, rfl, { h with
      noviol := p2.viol
      top_ge := Nat.le_trans h.top_ge (Nat.le_add_right _ 2)
      top_le := p2.size
      h_st := fun hs => h.head_below hs hm2 (Nat.le_add_right _ 2)
      b_un := fun hf => nomatch hbs.symm.trans hf
      b_st := fun _ => ⟨hlo, Nat.le_trans hle' (Nat.le_add_right _ 2), Nat.le_refl _, hty,
        (p2.words _ (Nat.le_succ_of_le hle')).trans (by rw [hext, enc_append, if_neg hbt, List.append_assoc]; rfl),
        (h.body_below hbs hm2 (Nat.le_add_right _ 2)).2.2.2.2.2⟩
      w1 := fun h0 => absurd h0 hbt
      last_h := fun hh => nomatch hl.symm.trans hh
      last_b := fun _ => ⟨hbs, rfl, hhd⟩ }⟩

theorem addGoal_ref {c a a'} (h : R c a) (l w : Int) (hs : a.addGoal l w = some a') :
    ∃ c', c.addGoal l w = some c' ∧ R c' a' := by
  cases hbs : a.bStarted with
  | true => exact addGoal_started h hbs l w hs
  | false =>
    -- an `addGoal` before any `startBody` opens a normal body first
    have hfr : a.frozen = false := by
      cases hf : a.frozen with
      | false => rfl
      | true => rw [AR.addGoal, hf] at hs; cases hs
    have r0 := h.open_body hbs
    have ha : a.addGoal l w =
        ({ a with bStarted := true, bt := 0, bound := -1, body := [], last := .body } : AR).addGoal l w := by
      unfold AR.addGoal
      dsimp only
      rw [hfr, hbs]
      cases w == 0 <;> rfl
    have hc : c.addGoal l w = ({ c with body := { mbeg := c.top, mend := c.top, type := 0 } } : RB).addGoal l w := by
      unfold RB.addGoal
      dsimp only
      rw [(h.b_un hbs).1, show (c.top == 0) = false from beq_false_of_ne (Nat.ne_of_gt (Nat.lt_of_lt_of_le HDR_pos h.top_ge))]
      rfl
    rw [ha] at hs
    rw [hc]
    exact addGoal_started r0 rfl l w hs

theorem setBound_ref {c a a'} (h : R c a) (b : Int) (hs : a.setBound b = some a') :
    ∃ c', c.setBound b = some c' ∧ R c' a' := by
  unfold AR.setBound at hs
  unfold RB.setBound RB.boundPos
  obtain ⟨hg, hs⟩ := Option.ite_none_left_eq_some.mp hs
  cases hs
  have hg' : ¬(c.fix || c.body.type == 0) = true := by rw [h.fix, h.body_type]; exact hg
  have hbt : a.bt ≠ 0 := fun e => hg (by rw [e]; exact Bool.or_true _)
  have hbs := h.bStarted_of_bt hbt
  obtain ⟨i, hi, hi0, hit⟩ := h.bound_word hbt
  obtain ⟨hlo, hle, hhi, hty, hws, -⟩ := h.b_st hbs
  obtain ⟨p, hrd⟩ := patch_wr c.mem i b hi0 (Nat.lt_of_lt_of_le hit h.top_le) h.noviol
  have hout : i + 1 ≤ c.body.mbeg := Nat.le_of_eq hi.symm
  rw [if_neg hg', Nat.sub_eq_of_eq_add hi]
  exact ⟨_, rfl, { h with
    noviol := p.viol
    top_le := p.size ▸ h.top_le
    h_st := fun hst => h.head_st hst
      (p.words ((h.head_off_sum hst hbt hi).imp_right fun hr => Nat.le_trans hout (Nat.le_trans hle hr))) h.head_le
    b_st := fun _ => ⟨hlo, hle, hhi, hty, (p.words (Or.inr hout)).trans hws, fun _ => by
      show (c.mem.wr i b).rd (c.body.mbeg - 1) = b
      rw [Nat.sub_eq_of_eq_add hi]; exact hrd⟩ }⟩

theorem clearHead_ref {c a a'} (h0 : R c a) (hs : a.clearHead = some a') : R c.clearHead a' := by
  have h := R_unfreeze h0 false
  unfold AR.clearHead at hs
  unfold RB.clearHead
  generalize c.unfreeze false = c1 at h ⊢
  generalize a.unfreeze false = a1 at h hs
  obtain ⟨-, hs⟩ := Option.ite_none_left_eq_some.mp hs
  cases hs
  have hlast : (if (a1.last == .head) = true then (if a1.bStarted = true then Part.body else .none) else a1.last) =
      if a1.bStarted = true then .body else .none := by
    cases hl : a1.last with
    | head => rfl
    | body => rw [(h.last_b hl).1]; rfl
    | none => rw [(h.last_n hl).2]; rfl
  rw [hlast]
  exact { h with
    top_ge := Nat.le_max_right _ _
    top_le := Nat.le_trans (Nat.max_le.mpr ⟨h.body_le, h.top_ge⟩) h.top_le
    h_un := fun _ => ⟨rfl, rfl, rfl⟩
    h_st := nofun
    b_st := fun hb => h.body_st hb rfl (fun _ => rfl) (Nat.le_max_left _ _)
    last_h := fun hl => by split at hl <;> cases hl
    last_b := fun hl =>
      have hb : a1.bStarted = true := Decidable.byContradiction fun hn => nomatch ite_eq_left_iff.mp hl hn
      have ⟨h1, h2, _⟩ := h.b_st hb
      ⟨hb, (Nat.max_eq_left (Nat.le_trans (Nat.le_add_right _ _) (Nat.le_trans h1 h2))).symm, nofun⟩
    last_n := fun hl => ⟨rfl, Bool.eq_false_iff.mpr fun hb => nomatch ite_eq_right_iff.mp hl hb⟩
    min_sum := nofun }

theorem clearBody_ref {c a a'} (h0 : R c a) (hs : a.clearBody = some a') : R c.clearBody a' := by
  have h := R_unfreeze h0 false
  unfold AR.clearBody at hs
  unfold RB.clearBody
  generalize c.unfreeze false = c1 at h ⊢
  generalize a.unfreeze false = a1 at h hs
  obtain ⟨h2, hs⟩ := Option.ite_none_left_eq_some.mp hs
  cases hs
  have hlast : (if (a1.last == .body) = true then (if a1.hStarted = true then Part.head else .none) else a1.last) =
      if a1.hStarted = true then .head else .none := by
    cases hl : a1.last with
    | body => rfl
    | head => rw [(h.last_h hl).1]; rfl
    | none => rw [(h.last_n hl).1]; rfl
  rw [hlast]
  exact { h with
    top_ge := Nat.le_max_right _ _
    top_le := Nat.le_trans (Nat.max_le.mpr ⟨h.head_le, h.top_ge⟩) h.top_le
    h_st := fun hb => h.head_st hb rfl (Nat.le_max_left _ _)
    b_un := fun _ => ⟨rfl, rfl, rfl⟩
    b_st := nofun
    w1 := fun _ _ => nofun
    last_h := fun hl =>
      have hb : a1.hStarted = true := Decidable.byContradiction fun hn => nomatch ite_eq_left_iff.mp hl hn
      have ⟨h1, h2, _⟩ := h.h_st hb
      ⟨hb, (Nat.max_eq_left (Nat.le_trans h1 h2)).symm, nofun⟩
    last_b := fun hl => by split at hl <;> cases hl
    last_n := fun hl => ⟨Bool.eq_false_iff.mpr (fun hb => nomatch ite_eq_right_iff.mp hl hb), rfl⟩
    min_sum := fun hc => absurd (beq_iff_eq.mpr hc) h2 }

/-- the copy constructor / assignment: only the `top` words in use are copied, the copy stands for the same rule -/
theorem copy_ref {c a} (h : R c a) : R c.copy a := by
  have hk : c.top - HDR ≤ c.mem.data.length := Nat.sub_le_iff_le_add'.mpr h.top_le
  have hm : SameBelow c.mem c.copy.mem c.top := by
    unfold SameBelow RB.copy
    rw [List.take_take, Nat.min_self]
  have hsz : c.copy.mem.size = c.top := by
    unfold RB.copy Mem.size
    rw [List.length_take, Nat.min_eq_left hk, Nat.add_sub_cancel' h.top_ge]
  exact { h with
    noviol := by
      unfold RB.copy RB.size
      rw [h.noviol, Bool.false_or, decide_eq_false (Nat.not_lt.mpr h.top_le)]
    top_le := Nat.le_of_eq hsz.symm
    h_st := fun hs => h.head_below hs hm (Nat.le_refl _)
    b_st := fun hs => h.body_below hs hm (Nat.le_refl _) }

theorem end_ref {c a} (h : R c a) : R c.end_ a.end_ := { h with fix := rfl }

theorem minWeight_eq (l : List (Int × Int)) :
    l.foldl (fun m p => if m > p.2 then p.2 else m) (l.headD (0, 0)).2 = minWeight l := rfl

theorem weaken_ref {c a a'} (h : R c a) (to : Nat) (w : Bool) (hs : a.weaken to w = some a') :
    ∃ c', c.weaken to w = some c' ∧ R c' a' := by
  unfold AR.weaken at hs
  obtain ⟨h2, hs⟩ := Option.ite_none_left_eq_some.mp hs
  have h2 : a.ht ≠ 2 := fun e => h2 (beq_iff_eq.mpr e)
  unfold RB.weaken
  rw [h.body_type]
  by_cases hsame : (a.bt == 0 || a.bt == to) = true
  · rw [if_pos hsame] at hs ⊢
    cases hs
    exact ⟨c, rfl, h⟩
  rw [if_neg hsame] at hs ⊢
  have hbt : a.bt ≠ 0 := fun e => hsame (by rw [e]; rfl)
  have hbs := h.bStarted_of_bt hbt
  obtain ⟨-, hle, hmt, -, -, hbnd⟩ := h.b_st hbs
  have hlo := (h.bound_pos hbt).1
  have hbnd := hbnd hbt
  obtain ⟨i, hi, hi0, -⟩ := h.bound_word hbt
  obtain ⟨hmend, hwords⟩ := h.sum_words hbt
  have hpairs : pairs (c.words c.body) = a.body := by unfold RB.words; rw [hwords]; exact pairs_flat a.body
  have htl := h.top_le
  have hhead : a.hStarted = true → c.head.mend ≤ i ∨ c.body.mend ≤ c.head.mbeg := fun hst => h.head_off_sum hst hbt hi
  rw [hpairs]
  by_cases ht0 : to = 0
  · -- to a normal body: the literals are compacted over the bound and the pairs
    subst ht0
    rw [if_pos (show ((0 : Nat) == 0) = true from rfl)] at hs ⊢
    cases hs
    refine ⟨_, rfl, ?_⟩
    rw [Nat.sub_eq_of_eq_add hi]
    have hin : i + a.body.length ≤ c.body.mend := by
      rw [hmend, hi]; exact Nat.add_le_add (Nat.le_succ i) (Nat.le_mul_of_pos_left _ (Nat.succ_pos 1))
    obtain ⟨p, hw1⟩ := patch_wrSeq1 c.mem i (a.body.map (·.1)) hi0
      (by rw [List.length_map]; exact Nat.le_trans hin (Nat.le_trans hmt htl)) h.noviol
    rw [List.length_map] at p hw1
    generalize c.mem.wrSeq i 1 (a.body.map (·.1)) = m1 at p hw1 ⊢
    exact { h with
      noviol := p.viol
      top_ge := Nat.le_trans hi0 (Nat.le_trans (Nat.le_add_right _ _) (Nat.le_max_right _ _))
      top_le := p.size ▸ Nat.max_le.mpr ⟨Nat.le_trans h.head_le htl, Nat.le_trans hin (Nat.le_trans hmt htl)⟩
      h_st := fun hst => h.head_st hst (p.words ((hhead hst).imp_right (Nat.le_trans hin))) (Nat.le_max_left _ _)
      b_un := fun hf => nomatch hbs.symm.trans hf
      b_st := fun _ => ⟨hi0, Nat.le_add_right _ _, Nat.le_max_right _ _, rfl,
        hw1.trans (by simp [enc, Function.comp_def]), fun hc => absurd rfl hc⟩
      w1 := fun _ p hp => by obtain ⟨q, -, rfl⟩ := List.mem_map.mp hp; rfl
      last_h := fun hl =>
        have ⟨hh, _, hb⟩ := h.last_h hl
        have h1 := Nat.le_trans hin (hb hbs)
        ⟨hh, (Nat.max_eq_left (Nat.le_trans h1 (h.h_st hh).2.1)).symm, fun _ => h1⟩
      last_b := fun hl =>
        have hle : c.head.mend ≤ i := by
          cases hh : a.hStarted with
          | false => rw [(h.h_un hh).1]; exact Nat.zero_le _
          | true => exact Nat.le_of_succ_le_succ (Nat.le_trans ((h.last_sum hbt hl).2.2 hh) (Nat.le_of_eq hi))
        ⟨hbs, (Nat.max_eq_right (Nat.le_trans hle (Nat.le_add_right _ _))).symm, fun _ => hle⟩
      min_sum := fun hc => absurd hc h2 }
  · have hto : ¬(to == 0) = true := fun e => ht0 (beq_iff_eq.mp e)
    have hlast : a.last = .body → a.bStarted = true ∧ c.body.mend = c.top ∧
        (a.hStarted = true → c.head.mend + (if to = 0 then 0 else 1) ≤ c.body.mbeg) := fun hl => by
      rw [if_neg ht0]; exact h.last_sum hbt hl
    rw [if_neg hto] at hs ⊢
    by_cases hreset : (to == 2 && w && !a.body.isEmpty) = true
    · -- to a count, the weights reset: every weight becomes 1 and the bound is rescaled
      rw [if_pos hreset] at hs ⊢
      obtain ⟨hfr, hs⟩ := Option.ite_none_left_eq_some.mp hs
      obtain ⟨hmn, hs⟩ := Option.ite_none_left_eq_some.mp hs
      cases hs
      have hto2 : to = 2 := by simp only [Bool.and_eq_true, beq_iff_eq] at hreset; exact hreset.1.1
      subst hto2
      rw [if_neg (h.fix ▸ hfr), show c.rd c.boundPos = a.bound from hbnd, minWeight_eq, if_neg hmn]
      refine ⟨_, rfl, ?_⟩
      have hb0 : HDR ≤ c.body.mbeg := Nat.le_trans (Nat.le_add_right _ _) hlo
      obtain ⟨p1, hw1⟩ := patch_wrSeq2 c.mem c.body.mbeg c.body.mend a.body hb0 hle (Nat.le_trans hmt htl) hwords
        h.noviol
      generalize c.mem.wrSeq (c.body.mbeg + 1) 2 (a.body.map fun _ => 1) = m1 at p1 hw1 ⊢
      generalize wrap32 ((a.bound + (minWeight a.body - 1)).tdiv (minWeight a.body)) = nb
      unfold RB.boundPos
      rw [Nat.sub_eq_of_eq_add hi]
      have hout : i + 1 ≤ c.body.mbeg := Nat.le_of_eq hi.symm
      obtain ⟨p2, hrd⟩ := patch_wr m1 i nb hi0
        (p1.size ▸ Nat.lt_of_lt_of_le (Nat.lt_of_succ_le hout) (Nat.le_trans hle (Nat.le_trans hmt htl))) p1.viol
      exact { h with
        noviol := p2.viol
        top_le := Nat.le_trans htl (Nat.le_of_eq (p2.size.trans p1.size).symm)
        h_st := fun hst => h.head_st hst
          ((p2.words ((hhead hst).imp_right fun hr => Nat.le_trans hout (Nat.le_trans hle hr))).trans
            (p1.words ((hhead hst).imp_left fun hl => Nat.le_trans hl (Nat.le_trans (Nat.le_succ i) hout)))) h.head_le
        b_un := fun hf => nomatch hbs.symm.trans hf
        b_st := fun _ => ⟨hlo, hle, hmt, rfl, (p2.words (Or.inr hout)).trans hw1, fun _ => by
          show (m1.wr i nb).rd (c.body.mbeg - 1) = nb
          rw [Nat.sub_eq_of_eq_add hi]; exact hrd⟩
        w1 := nofun
        last_b := hlast
        min_sum := fun hc => absurd hc h2 }
    · -- only the type changes
      rw [if_neg hreset] at hs ⊢
      cases hs
      exact ⟨_, rfl, { h with
        b_un := fun hf => nomatch hbs.symm.trans hf
        b_st := fun _ => ⟨by rw [if_neg ht0]; exact hlo, hle, hmt, rfl,
          hwords.trans (enc_nonzero to ht0 _).symm, fun _ => hbnd⟩
        w1 := fun hc => absurd hc ht0
        last_b := hlast
        min_sum := fun hc => absurd hc h2 }⟩


/-- under the refinement relation the observable rule is the specification's rule, and reading it stays
    inside the block. -/
theorem view_ref {c a} (h : R c a) : c.view = a.view ∧ c.viewOk = true := by
  have hsl : (c.head.type == 2 || c.body.type != 0) = (a.bt != 0) := by
    rw [h.head_type, h.body_type]
    by_cases hbt : a.bt = 0
    · rw [hbt, show (a.ht == 2) = false from beq_false_of_ne fun h2 => h.min_sum h2 hbt]; rfl
    · rw [show (a.bt != 0) = true from bne_iff_ne.mpr hbt]; exact Bool.or_true _
  constructor
  · unfold RB.view AR.view RB.words RB.rd RB.boundPos
    rw [hsl]
    simp only [h.head_type, h.body_type, h.head_words, h.body_words]
    by_cases hbt : a.bt = 0
    · have hw : a.body.map (fun p => (p.1, (1 : Int))) = a.body.map id :=
        List.map_congr_left fun p hp => by rw [← h.w1 hbt p hp]; rfl
      simp only [hbt, bne_self_eq_false, Bool.false_eq_true, ↓reduceIte, beq_self_eq_true, enc, List.map_map,
        Function.comp_def, hw, List.map_id]
    · simp only [bne_iff_ne, ne_eq, hbt, not_false_eq_true, ↓reduceIte, beq_iff_eq,
        (h.b_st (h.bStarted_of_bt hbt)).2.2.2.2.2 hbt, enc_nonzero _ hbt, pairs_flat]
  · have e1 : (c.head.len == 0 || (decide (HDR ≤ c.head.mbeg) && decide (c.head.mend ≤ c.mem.size))) = true := by
      cases hs : a.hStarted with
      | false => rw [(h.h_un hs).1]; rfl
      | true =>
        obtain ⟨h1, -, h3, -⟩ := h.h_st hs
        rw [decide_eq_true h1, decide_eq_true (Nat.le_trans h3 h.top_le)]; exact Bool.or_true _
    have e2 : (c.body.len == 0 || (decide (HDR ≤ c.body.mbeg) && decide (c.body.mend ≤ c.mem.size))) = true := by
      cases hs : a.bStarted with
      | false => rw [(h.b_un hs).1]; rfl
      | true =>
        obtain ⟨h1, -, h3, -⟩ := h.b_st hs
        rw [decide_eq_true (Nat.le_trans (Nat.le_add_right _ _) h1), decide_eq_true (Nat.le_trans h3 h.top_le)]
        exact Bool.or_true _
    unfold RB.viewOk RB.size
    simp only [hsl, e1, e2, Bool.true_and]
    by_cases hbt : a.bt = 0
    · rw [hbt]; rfl
    · obtain ⟨h1, h2⟩ := h.bound_pos hbt
      rw [decide_eq_true h1, decide_eq_true (Nat.le_trans h2 h.top_le)]; exact Bool.or_true _

end PotasscoVerif.RuleBuilder
