/-
  Heuristic directives through the converter (potassco extensions on): every `#heuristic` directive of a step is queued with an atom that
  stands for its condition (`Rep`), and at the end of the step an output directive `_heuristic(name,modifier,bias,priority)` on
  that atom is emitted for every queued directive whose target atom occurs in the program (`flush_heu_outs`; that there is no second
  one is not stated).
-/
import PotasscoVerif.Lemmas.ConvertOneStep
namespace PotasscoVerif.C02
open PotasscoVerif PotasscoVerif.Convert PotasscoVerif.Asp

/-- the heuristic directives among the calls: target, modifier, bias, priority, condition -/
def heuOf : Call → Option (Nat × Nat × Int × Nat × List Int)
  | .heuristic a t b p c => some (a, t, b, p, c)
  | _ => none
def heusOf (cs : List Call) : List (Nat × Nat × Int × Nat × List Int) := cs.filterMap heuOf
theorem heusOf_append (a b : List Call) : heusOf (a ++ b) = heusOf a ++ heusOf b := List.filterMap_append

theorem heusOf_single {x : Call} (h : isHeu x = false) : heusOf [x] = [] := by cases x <;> first | rfl | cases h

/-- the queue mirrors the directives given so far: same order, same fields, the queued atom stands for the condition -/
def HRel (c : CS) (defs : List (Nat × Body)) : List (Nat × Nat × Int × Nat × List Int) → List Heu → Prop
  | [], [] => True
  | h :: hs, e :: es => (e.atom = h.1 ∧ e.type = h.2.1 ∧ e.bias = h.2.2.1 ∧ e.prio = h.2.2.2.1 ∧ Rep c defs e.cond h.2.2.2.2) ∧ HRel c defs hs es
  | _, _ => False

theorem HRel.mono {c c' : CS} {defs defs' : List (Nat × Body)} (hs : Steps (abs c) (abs c')) (hd : ∀ d ∈ defs, d ∈ defs') :
    ∀ (Hs : List (Nat × Nat × Int × Nat × List Int)) (es : List Heu), HRel c defs Hs es → HRel c' defs' Hs es := by
  intro Hs
  induction Hs with
  | nil => intro es h; cases es with | nil => trivial | cons _ _ => exact h
  | cons x r ih =>
    intro es h
    cases es with
    | nil => exact h
    | cons e t =>
      obtain ⟨⟨h1, h2, h3, h4, h5⟩, h6⟩ := h
      exact ⟨⟨h1, h2, h3, h4, h5.mono hs hd⟩, ih t h6⟩

theorem HRel.snoc {c : CS} {defs : List (Nat × Body)} (x : Nat × Nat × Int × Nat × List Int) (e : Heu)
    (hx : e.atom = x.1 ∧ e.type = x.2.1 ∧ e.bias = x.2.2.1 ∧ e.prio = x.2.2.2.1 ∧ Rep c defs e.cond x.2.2.2.2) :
    ∀ (Hs : List (Nat × Nat × Int × Nat × List Int)) (es : List Heu), HRel c defs Hs es → HRel c defs (Hs ++ [x]) (es ++ [e]) := by
  intro Hs
  induction Hs with
  | nil => intro es h; cases es with | nil => exact ⟨hx, trivial⟩ | cons _ _ => exact absurd h id
  | cons y r ih =>
    intro es h
    cases es with
    | nil => exact absurd h id
    | cons e' t => exact ⟨h.1, ih t h.2⟩

theorem HRel.mem {c : CS} {defs : List (Nat × Body)} : ∀ (Hs : List (Nat × Nat × Int × Nat × List Int)) (es : List Heu), HRel c defs Hs es →
    ∀ x ∈ Hs, ∃ e ∈ es, e.atom = x.1 ∧ e.type = x.2.1 ∧ e.bias = x.2.2.1 ∧ e.prio = x.2.2.2.1 ∧ Rep c defs e.cond x.2.2.2.2 := by
  intro Hs
  induction Hs with
  | nil => intro es _ x hx; cases hx
  | cons y r ih =>
    intro es h x hx
    cases es with
    | nil => exact absurd h id
    | cons e t =>
      simp only [List.mem_cons] at hx
      rcases hx with hx | hx
      · subst hx; exact ⟨e, by simp, h.1⟩
      · obtain ⟨e', he', hh⟩ := ih t h.2 x hx
        exact ⟨e', by simp [he'], hh⟩

/-- one call: the translation invariant and the queue relation together (under one list of definitions) -/
theorem apply_plainJH {c : CS} {P defs} {Hs : List (Nat × Nat × Int × Nat × List Int)} (hj : J c P defs) (hh : HRel c defs Hs c.heur) (x : Call) (hx : PlainOk x) :
    ∃ defs', J (c.apply x) (P ++ (rulesOf [x]).filter kept) defs' ∧ HRel (c.apply x) defs' (Hs ++ heusOf [x]) (c.apply x).heur := by
  obtain ⟨defs', hJ, hsub, hrep⟩ := apply_J hj x hx
  -- the definitions only grow, and the relation does not look at the queue of the state itself
  have hh' : HRel (c.apply x) defs' Hs c.heur := HRel.mono (apply_steps c x) hsub _ _ hh
  refine ⟨defs', hJ, ?_⟩
  cases hh0 : isHeu x with
  | false =>
    rw [heusOf_single hh0, List.append_nil, (apply_frame c hj.nofail x hx).heur hh0]
    exact hh'
  | true =>
    obtain ⟨a, t, b, p, cond, rfl⟩ := isHeu_inv hh0
    have hm := (maps_pass c (.heuristic a t b p cond) rfl).trans (maps_makeAtom _ cond true)
    have e : (c.apply (.heuristic a t b p cond)).heur =
        c.heur ++ [{ atom := a, type := t, bias := b, prio := p, cond := ((pass c (.heuristic a t b p cond)).makeAtom cond true).2 }] := by
      rw [apply_heu_eq c hj.nofail, ← hm.heur]
    rw [e]
    exact HRel.snoc (a, t, b, p, cond) _ ⟨rfl, rfl, rfl, rfl, hrep _ rfl⟩ Hs c.heur hh'

/-! ### the names: every recorded name of an atom is among the pending symbols -/
def SymInv (c : CS) : Prop := ∀ p ∈ c.symTab, p ∈ c.output

theorem SymInv.of {c c' : CS} (h : SymInv c) (h1 : c'.symTab = c.symTab) (h2 : c'.output = c.output) : SymInv c' := by
  intro p hp; rw [h2]; exact h p (h1 ▸ hp)

theorem SymInv.addOutput {c : CS} (h : SymInv c) (atom : Nat) (name : List Nat) (hash : Bool) : SymInv (c.addOutput atom name hash) := by
  intro p hp
  simp only [CS.addOutput] at hp ⊢
  split at hp
  · simp only [List.mem_append, List.mem_singleton] at hp ⊢
    rcases hp with hp | hp
    · exact Or.inl (h p hp)
    · exact Or.inr hp
  · exact List.mem_append_left _ (h p hp)

theorem SymInv.step {c : CS} (h : SymInv c) (hf : c.fail = false) (x : Call) (hx : PlainOk x) : SymInv (c.apply x) := by
  cases x with
  | output str cond =>
    have hm := maps_makeAtom c cond true
    rw [apply_output_eq c hf]
    exact (h.of hm.symTab hm.output).addOutput _ _ _
  | acycEdge a b cond =>
    have hm := (maps_pass c (.acycEdge a b cond) rfl).trans (maps_makeAtom _ cond true)
    rw [apply_edge_eq c hf]
    exact (h.of hm.symTab hm.output).addOutput _ _ _
  | _ =>
    obtain ⟨e1, e2⟩ := (apply_frame c hf _ hx).syms rfl
    exact h.of e1 e2

theorem run_JHX {c : CS} {P defs} {Hs : List (Nat × Nat × Int × Nat × List Int)} {t : T} (hj : J c P defs) (hh : HRel c defs Hs c.heur) (hxi : XI c t) (hsy : SymInv c)
    (ds : List Call) (hx : ∀ d ∈ ds, PlainOk d) :
    ∃ defs', J (ds.foldl CS.apply c) (P ++ (rulesOf ds).filter kept) defs' ∧ HRel (ds.foldl CS.apply c) defs' (Hs ++ heusOf ds) (ds.foldl CS.apply c).heur ∧
      XI (ds.foldl CS.apply c) (t.run ds) ∧ SymInv (ds.foldl CS.apply c) := by
  have := run_ind (Q := fun c src => ∃ defs', J c (P ++ (rulesOf src).filter kept) defs' ∧ HRel c defs' (Hs ++ heusOf src) c.heur ∧
      XI c (t.run src) ∧ SymInv c)
    (fun c src d hd ⟨defs1, h1, q1, x1, s1⟩ => by
      obtain ⟨defs2, h2, q2⟩ := apply_plainJH h1 q1 d hd
      rw [List.append_assoc, ← List.filter_append, ← rulesOf_append] at h2
      rw [List.append_assoc, ← heusOf_append] at q2
      exact ⟨defs2, h2, q2, run_snoc t src d ▸ x1.step h1.nofail d hd, s1.step h1.nofail d hd⟩)
    ds hx (c := c) (src := []) ⟨defs, (List.append_nil P).symm ▸ hj, (List.append_nil Hs).symm ▸ hh, hxi, hsy⟩
  rwa [List.nil_append] at this

theorem preEnd_JHX (ext inc : Bool) (ds : List Call) (hx : ∀ d ∈ ds, PlainOk d) :
    ∃ defs, J (preEnd ext inc ds) ((rulesOf ds).filter kept) defs ∧ HRel (preEnd ext inc ds) defs (heusOf ds) (preEnd ext inc ds).heur ∧
      XI (preEnd ext inc ds) (({} : T).run ds) ∧ SymInv (preEnd ext inc ds) := by
  obtain ⟨defs, h1, q1, x1, y1⟩ := run_JHX (J.start ext inc) (Hs := []) trivial (((XI.init ext).emit _).emit _) (List.forall_mem_nil _) ds hx
  rw [List.nil_append] at h1 q1
  exact ⟨defs, h1, q1, x1, y1⟩

/-! ### what the heuristic flush emits -/
def heuOutName (nm : List Nat) (h : Heu) : List Nat :=
  Convert.s "_heuristic(" ++ nm ++ [44] ++ heuName h.type ++ [44] ++ AspifOut.printInt h.bias ++ [44] ++ AspifOut.printNat h.prio ++ [41]

theorem heuStep_out_mono (c : CS) (h : Heu) : ∀ x ∈ c.out, x ∈ (heuStep c h).out := by
  intro x hx
  unfold heuStep
  split
  · exact hx
  · dsimp only
    split <;> exact List.mem_append_left _ hx

theorem getName_mem (c : CS) (sm : Nat) (n : List Nat) (h : c.getName sm = some n) : (sm, n) ∈ c.symTab := by
  obtain ⟨p, hp, e⟩ := Option.map_eq_some_iff.mp h
  have hk : p.1 = sm := by simpa using List.find?_some hp
  rw [← hk, ← e]
  exact List.mem_of_find?_eq_some hp

theorem heuStep_named (c : CS) (h : Heu) (hm : h.atom ∈ domOf c) :
    ∃ nm sm, (h.atom, sm) ∈ (abs c).ids ∧ Call.output (heuOutName nm h) [(h.cond : Int)] ∈ (heuStep c h).out ∧
      (SymInv c → (sm, nm) ∈ (heuStep c h).output) := by
  obtain ⟨ma, hfa⟩ := Option.isSome_iff_exists.mp (dom_find c h.atom hm)
  have hid := find_ids c h.atom ma hfa
  unfold heuStep
  rw [hfa]
  dsimp only
  cases hn : (if ma.shown = true then c.getName ma.smId else none) with
  | some n =>
    have hg : c.getName ma.smId = some n := by
      split at hn
      · exact hn
      · cases hn
    exact ⟨n, ma.smId, hid, List.mem_append_right _ (List.mem_singleton_self _), fun hs => hs _ (getName_mem c _ _ hg)⟩
  | none =>
    exact ⟨_, ma.smId, hid, List.mem_append_right _ (List.mem_singleton_self _), fun _ => List.mem_append_right _ (List.mem_singleton_self _)⟩

theorem heuStep_sym (c : CS) (h : Heu) (hs : SymInv c) : SymInv (heuStep c h) ∧ ∀ p ∈ c.output, p ∈ (heuStep c h).output := by
  unfold heuStep
  split
  · exact ⟨hs, fun p hp => hp⟩
  · dsimp only
    split
    · exact ⟨hs.of rfl rfl, fun p hp => hp⟩
    · exact ⟨((hs.of (c' := c.updAtom h.atom (fun x => { x with shown := true })) rfl rfl).addOutput _ _ _).of rfl rfl,
        fun p hp => List.mem_append_left _ hp⟩

theorem heuFold_named : ∀ (es : List Heu) (c : CS),
    (∀ x ∈ c.out, x ∈ (es.foldl heuStep c).out) ∧
    (SymInv c → SymInv (es.foldl heuStep c) ∧ ∀ p ∈ c.output, p ∈ (es.foldl heuStep c).output) ∧
    ∀ e ∈ es, e.atom ∈ domOf c → ∃ nm sm, (e.atom, sm) ∈ (abs c).ids ∧ Call.output (heuOutName nm e) [(e.cond : Int)] ∈ (es.foldl heuStep c).out ∧
      (SymInv c → (sm, nm) ∈ (es.foldl heuStep c).output) := by
  intro es
  induction es with
  | nil => intro c; exact ⟨fun x hx => hx, fun hs => ⟨hs, fun p hp => hp⟩, (List.forall_mem_nil _)⟩
  | cons h r ih =>
    intro c
    obtain ⟨i1, i2, i3⟩ := ih (heuStep c h)
    have ea := abs_heuStep c h
    refine ⟨fun x hx => i1 x (heuStep_out_mono c h x hx), fun hs => ?_, fun e he hm => ?_⟩
    · obtain ⟨s1, m1⟩ := heuStep_sym c h hs
      exact ⟨(i2 s1).1, fun p hp => (i2 s1).2 p (m1 p hp)⟩
    · rcases List.mem_cons.mp he with rfl | he
      · obtain ⟨nm, sm, hid, ho, hn⟩ := heuStep_named c e hm
        exact ⟨nm, sm, hid, i1 _ ho, fun hs => (i2 (heuStep_sym c e hs).1).2 _ (hn hs)⟩
      · obtain ⟨nm, sm, hid, ho, hn⟩ := i3 e he (by unfold domOf; rw [ea]; exact hm)
        exact ⟨nm, sm, ea ▸ hid, ho, fun hs => hn (heuStep_sym c h hs).1⟩

theorem flush_heu (c : CS) (hf : c.fail = false) (hfs : FlushShape c.flushMinimize) :
    ∀ e ∈ c.heur, e.atom ∈ domOf c → ∃ nm sm, (e.atom, sm) ∈ (abs (c.apply .endStep)).ids ∧
      Call.output (heuOutName nm e) [(e.cond : Int)] ∈ (c.apply .endStep).out ∧ (SymInv c → Call.output nm [(sm : Int)] ∈ (c.apply .endStep).out) := by
  intro e he hm
  obtain ⟨rs, esh, _, _⟩ := hfs
  have hsym : c.flushMinimize.symTab = c.symTab := congrArg (·.2.2.2.2.2.1) (flushMinimize_keeps c)
  obtain ⟨nm, sm, hid, ho, hn⟩ := (heuFold_named c.flushMinimize.flushExternal.heur c.flushMinimize.flushExternal).2.2 e
    (by rw [esh]; exact flushMinimize_heur c ▸ he) (by rw [esh]; exact dom_mono (flushMinimize_steps c) e.atom hm)
  rw [← flushHeuristic_eq] at ho hn
  have hmem : ∀ x ∈ c.flushMinimize.flushExternal.flushHeuristic.out, x ∈ (c.apply .endStep).out := fun x hx => by
    rw [apply_end c hf, CS.emit, flush_out, flushSymbols_eq]
    exact List.mem_append_left _ (List.mem_append_left _ (List.mem_append_left _ hx))
  have hsyms : ∀ p ∈ c.flushMinimize.flushExternal.flushHeuristic.output, Call.output p.2 [(p.1 : Int)] ∈ (c.apply .endStep).out := fun p hp => by
    rw [apply_end c hf, CS.emit, flush_out, flushSymbols_eq]
    exact List.mem_append_left _ (List.mem_append_left _ (List.mem_append_right _ (List.mem_map.mpr ⟨p, (sortSyms_perm _).mem_iff.mpr hp, rfl⟩)))
  refine ⟨nm, sm, ?_, hmem _ ho, fun hsy => hsyms _ (hn ?_)⟩
  · rw [apply_end c hf, abs_emit, abs_flush, abs_flushSymbols, abs_flushHeuristic]
    exact hid
  · rw [esh]
    intro p hp
    show p ∈ c.flushMinimize.output
    rw [flushMinimize_output]
    exact hsy p (hsym ▸ hp)

/-- **the end of the step**: every queued heuristic whose target occurs in the program is emitted as an output directive on its condition atom -/
theorem flush_heu_outs (c : CS) (hf : c.fail = false) (hi : Inv (abs c)) (hfs : FlushShape c.flushMinimize) :
    ∀ e ∈ c.heur, e.atom ∈ domOf c → ∃ nm, Call.output (heuOutName nm e) [(e.cond : Int)] ∈ (c.apply .endStep).out := by
  intro e he hm
  obtain ⟨nm, _, _, h, _⟩ := flush_heu c hf hfs e he hm
  exact ⟨nm, h⟩

/-- the end of the step, with the name: the emitted heuristic symbol carries a name under which the emitted program shows the target's atom -/
theorem flush_heu_named (c : CS) (hf : c.fail = false) (hi : Inv (abs c)) (hsy : SymInv c) (hfs : FlushShape c.flushMinimize) :
    ∀ e ∈ c.heur, e.atom ∈ domOf c → ∃ nm sm, (e.atom, sm) ∈ (abs (c.apply .endStep)).ids ∧
      Call.output (heuOutName nm e) [(e.cond : Int)] ∈ (c.apply .endStep).out ∧ Call.output nm [(sm : Int)] ∈ (c.apply .endStep).out := by
  intro e he hm
  obtain ⟨nm, sm, h1, h2, h3⟩ := flush_heu c hf hfs e he hm
  exact ⟨nm, sm, h1, h2, h3 hsy⟩

end PotasscoVerif.C02
