/-
  The per-atom flags of the converter model (`head`, `extn`) and the list of registered externals through the
  operations of a step, against a small pure tracker (`T`): heads seen so far, externals registered (an external on an
  atom that already is a head is ignored), the last value registered per atom.  `XI.step`: the model follows the tracker
  through every call of a step; `run_heads`, `run_regs`, `run_val_last`: what the tracker has after the calls `ds` is what
  Spec/AspCalls.lean reads off them (`headsOf`, `extCalls`, `lastExt`).
-/
import PotasscoVerif.Lemmas.ConvertSem
namespace PotasscoVerif.C02
open PotasscoVerif PotasscoVerif.Convert PotasscoVerif.Asp

def hd (c : CS) (a : Nat) : Bool := match c.find a with | some x => x.head | none => false
def ex (c : CS) (a : Nat) : Nat := match c.find a with | some x => x.extn | none => 0

theorem find_mapAtom_other (c : CS) (a b : Nat) (h : b ≠ a) : (c.mapAtom a).1.find b = c.find b := by
  unfold CS.mapAtom
  cases hf : c.find a with
  | some x => rfl
  | none =>
    simp only [CS.find, List.find?_append]
    have : ((a, ({ smId := c.next } : CAtom)).1 == b) = false := by simp; exact fun e => h e.symm
    cases h2 : c.atoms.find? (fun p => p.1 == b) <;> simp [this]

theorem find_mapAtom_self (c : CS) (a : Nat) : (c.mapAtom a).1.find a = some (c.mapAtom a).2 := by
  unfold CS.mapAtom
  cases hf : c.find a with
  | some x => simpa using hf
  | none =>
    simp only [CS.find, List.find?_append]
    have h0 : c.atoms.find? (fun p => p.1 == a) = none := Option.map_eq_none_iff.mp hf
    simp [h0]

theorem mapAtom_snd_flags (c : CS) (a : Nat) : (c.mapAtom a).2.head = hd c a ∧ (c.mapAtom a).2.extn = ex c a := by
  unfold CS.mapAtom hd ex
  cases hf : c.find a <;> simp

theorem find_updAtom (c : CS) (a : Nat) (f : CAtom → CAtom) (b : Nat) :
    (c.updAtom a f).find b = if b = a then (c.find b).map f else c.find b := by
  unfold CS.updAtom CS.find
  simp only
  induction c.atoms with
  | nil => simp
  | cons p r ih =>
    simp only [List.map_cons, List.find?_cons]
    by_cases hp : p.1 = b
    · by_cases hb : b = a
      · subst hb; subst hp; simp
      · have : ¬ p.1 = a := fun e => hb (hp ▸ e)
        simp [hp, hb]
    · have e1 : (p.1 == b) = false := by simpa using hp
      have e2 : ((if (p.1 == a) = true then (p.1, f p.2) else p).1 == b) = false := by
        split <;> simpa using hp
      rw [e1, e2]; exact ih

theorem hd_updAtom (c : CS) (a : Nat) (f : CAtom → CAtom) (hf : ∀ x, (f x).head = x.head) (b : Nat) : hd (c.updAtom a f) b = hd c b := by
  unfold hd; rw [find_updAtom]
  by_cases hb : b = a
  · rw [if_pos hb]; cases c.find b with
    | none => rfl
    | some x => exact hf x
  · rw [if_neg hb]

theorem ex_updAtom (c : CS) (a : Nat) (f : CAtom → CAtom) (hf : ∀ x, (f x).extn = x.extn) (b : Nat) : ex (c.updAtom a f) b = ex c b := by
  unfold ex; rw [find_updAtom]
  by_cases hb : b = a
  · rw [if_pos hb]; cases c.find b with
    | none => rfl
    | some x => exact hf x
  · rw [if_neg hb]

/-- what the externals need of a state is the same in both -/
structure KeepsX (c c' : CS) : Prop where
  hd : ∀ b, hd c' b = hd c b
  ex : ∀ b, ex c' b = ex c b
  externs : c'.externs = c.externs

theorem KeepsX.refl (c : CS) : KeepsX c c := ⟨fun _ => rfl, fun _ => rfl, rfl⟩

theorem KeepsX.trans {c c1 c2 : CS} (h1 : KeepsX c c1) (h2 : KeepsX c1 c2) : KeepsX c c2 :=
  ⟨fun b => (h2.hd b).trans (h1.hd b), fun b => (h2.ex b).trans (h1.ex b), h2.externs.trans h1.externs⟩

theorem KeepsX.of_eq {c c' : CS} (ha : c'.atoms = c.atoms) (he : c'.externs = c.externs) : KeepsX c c' := by
  have hf : ∀ b, c'.find b = c.find b := fun b => by unfold CS.find; rw [ha]
  exact ⟨fun b => by unfold C02.hd; rw [hf], fun b => by unfold C02.ex; rw [hf], he⟩

theorem KeepsX.foldl {β : Type} (f : CS → β → CS) (hf : ∀ c x, KeepsX c (f c x)) (l : List β) (c : CS) : KeepsX c (l.foldl f c) :=
  foldl_inv (KeepsX c) f (fun c' x h => h.trans (hf c' x)) l c (.refl c)

theorem keepsX_mapAtom (c : CS) (a : Nat) : KeepsX c (c.mapAtom a).1 := by
  have key : ∀ b, C02.hd (c.mapAtom a).1 b = C02.hd c b ∧ C02.ex (c.mapAtom a).1 b = C02.ex c b := fun b => by
    unfold C02.hd C02.ex
    by_cases h : b = a
    · subst h; rw [find_mapAtom_self]; exact mapAtom_snd_flags c b
    · rw [find_mapAtom_other c a b h]; exact ⟨rfl, rfl⟩
  exact ⟨fun b => (key b).1, fun b => (key b).2, rest_externs (rest_mapAtom c a)⟩

theorem keepsX_updAtom (c : CS) (a : Nat) (s : CAtom → Bool) : KeepsX c (c.updAtom a fun x => ⟨x.smId, x.head, s x, x.extn⟩) :=
  ⟨hd_updAtom c a _ fun _ => rfl, ex_updAtom c a _ fun _ => rfl, rfl⟩

theorem keepsX_mapLits (c : CS) (ls acc : List Int) : KeepsX c (c.mapLits ls acc).1 := by
  induction ls generalizing c acc with
  | nil => exact .refl c
  | cons l r ih => exact (keepsX_mapAtom c _).trans (ih _ _)

theorem keepsX_mapWLits (c : CS) (ls acc : List (Int × Int)) : KeepsX c (c.mapWLits ls acc).1 :=
  mapWLits_fst c ls acc [] ▸ keepsX_mapLits c _ []

theorem keepsX_auxAtom (c : CS) (cond : List Int) : KeepsX c (c.auxAtom cond).1 :=
  (KeepsX.of_eq (c := c) (c' := splitState c) rfl rfl).trans ((keepsX_mapLits _ cond []).trans (.of_eq rfl rfl))

theorem keepsX_makeAtom (c : CS) (cond : List Int) (named : Bool) : KeepsX c (c.makeAtom cond named).1 := by
  unfold CS.makeAtom
  split
  · dsimp only
    split
    · exact (keepsX_mapAtom c _).trans (keepsX_auxAtom _ cond)
    · dsimp only; exact (keepsX_mapAtom c _).trans (keepsX_updAtom ..)
  · exact keepsX_auxAtom c cond

theorem keepsX_pass (c : CS) (x : Call) : KeepsX c (pass c x) := by
  unfold pass; split
  · exact .of_eq rfl rfl
  · exact .refl c

theorem hd_setHead (c : CS) (a b : Nat) : hd ((c.mapAtom a).1.updAtom a (fun x => { x with head := true })) b = (hd c b || b == a) := by
  unfold hd
  rw [find_updAtom]
  by_cases h : b = a
  · subst h; simp [find_mapAtom_self]
  · have hb : (b == a) = false := by simpa using h
    simp only [h, ↓reduceIte, hb, Bool.or_false]
    rw [find_mapAtom_other c a b h]

theorem hd_mapHead (c : CS) (h : List Nat) (b : Nat) : hd (c.mapHead h).1 b = (hd c b || h.contains b) := by
  show hd (c.mapHeadAtoms h []).1 b = _
  generalize ([] : List Nat) = acc
  induction h generalizing c acc with
  | nil => exact (Bool.or_false _).symm
  | cons a r ih => rw [CS.mapHeadAtoms, ih, hd_setHead, List.contains_cons, Bool.or_assoc]

theorem ex_mapHead (c : CS) (h : List Nat) (b : Nat) : ex (c.mapHead h).1 b = ex c b := by
  show ex (c.mapHeadAtoms h []).1 b = _
  generalize ([] : List Nat) = acc
  induction h generalizing c acc with
  | nil => rfl
  | cons a r ih => rw [CS.mapHeadAtoms, ih, ex_updAtom _ a (fun x => { x with head := true }) fun _ => rfl, (keepsX_mapAtom c a).ex]

structure T where
  heads : List Nat := []
  regs  : List Nat := []
  vals  : List (Nat × Nat) := []     -- latest first

def T.val (t : T) (a : Nat) : Nat := ((t.vals.find? (fun p => p.1 == a)).map (·.2)).getD 0

def T.step (t : T) : Call → T
  | .rule _ h _ => { t with heads := t.heads ++ h }
  | .sumRule _ h _ _ => { t with heads := t.heads ++ h }
  | .external a v => if t.heads.contains a then t else { t with regs := t.regs ++ [a], vals := (a, v) :: t.vals }
  | _ => t

-- the state agrees with the tracker on head flags, registered externals and their values; registered atoms are mapped
structure XI (c : CS) (t : T) : Prop where
  h : ∀ b, hd c b = t.heads.contains b
  r : c.externs = t.regs
  v : ∀ b, ex c b = t.val b
  m : ∀ a ∈ c.externs, a ∈ domOf c

theorem XI.init (ext : Bool) : XI ({ ext := ext } : CS) {} :=
  ⟨fun _ => rfl, rfl, fun _ => rfl, (List.forall_mem_nil _)⟩

theorem XI.of {c c' : CS} {t : T} (h : XI c t) (hs : Steps (abs c) (abs c')) (hk : KeepsX c c') : XI c' t :=
  ⟨fun b => (hk.hd b).trans (h.h b), hk.externs.trans h.r, fun b => (hk.ex b).trans (h.v b),
    fun a ha => dom_mono hs a (h.m a (hk.externs ▸ ha))⟩

theorem XI.congr {c c' : CS} {t : T} (h : XI c t) (ha : c'.atoms = c.atoms) (he : c'.externs = c.externs) : XI c' t := by
  have hk := KeepsX.of_eq ha he
  have hd : domOf c' = domOf c := by unfold domOf abs; rw [ha]
  exact ⟨fun b => (hk.hd b).trans (h.h b), he.trans h.r, fun b => (hk.ex b).trans (h.v b), fun a hm => hd ▸ h.m a (he ▸ hm)⟩

theorem XI.emit {c : CS} {t : T} (h : XI c t) (x : Call) : XI (c.emit x) t := h.congr rfl rfl
theorem XI.addOutput {c : CS} {t : T} (h : XI c t) (n : Nat) (s : List Nat) (hash : Bool) : XI (c.addOutput n s hash) t := h.congr rfl rfl
theorem XI.setHeur {c : CS} {t : T} (h : XI c t) (hs : List Heu) : XI { c with heur := hs } t := h.congr rfl rfl
theorem XI.newAux {c : CS} {t : T} (h : XI c t) : XI (splitState c) t := h.congr rfl rfl

theorem XI.heads {c c' : CS} {t : T} (h : XI c t) (head : List Nat) (hs : Steps (abs (c.mapHead head).1) (abs c'))
    (hk : KeepsX (c.mapHead head).1 c') : XI c' { t with heads := t.heads ++ head } := by
  have he := rest_externs (rest_mapHead c head)
  refine ⟨fun b => ?_, hk.externs.trans (he.trans h.r), fun b => ?_, fun a ha => ?_⟩
  · rw [hk.hd, hd_mapHead, h.h, List.contains_append]
  · rw [hk.ex, ex_mapHead]; exact h.v b
  · exact dom_mono ((mapHead_steps c head).trans hs) a (h.m a (he ▸ hk.externs ▸ ha))

theorem dom_find (c : CS) (a : Nat) (h : a ∈ domOf c) : (c.find a).isSome = true := by
  unfold CS.find
  simp only [Option.isSome_map, List.find?_isSome]
  simp only [domOf, abs, List.map_map, List.mem_map] at h
  obtain ⟨p, hp, rfl⟩ := h
  exact ⟨p, hp, by simp⟩

theorem XI.register {m : CS} {t : T} (h : XI m t) (a v : Nat) (ha : a ∈ domOf m) :
    XI { (m.updAtom a fun x => { x with extn := v }) with externs := m.externs ++ [a] } { t with regs := t.regs ++ [a], vals := (a, v) :: t.vals } := by
  have e := abs_updAtom m a (·.head) (·.shown) fun _ => v
  refine ⟨fun b => Eq.trans ?_ (h.h b), congrArg (· ++ [a]) h.r, fun b => ?_, fun b hb => ?_⟩
  · exact hd_updAtom m a (fun x => { x with extn := v }) (fun _ => rfl) b
  · show ex (m.updAtom a fun x => { x with extn := v }) b = _
    unfold ex T.val
    rw [find_updAtom, List.find?_cons]
    by_cases hb : b = a
    · subst hb
      obtain ⟨x, hx⟩ := Option.isSome_iff_exists.mp (dom_find m b ha)
      rw [if_pos rfl, hx, beq_self_eq_true]; rfl
    · rw [if_neg hb, (beq_eq_false_iff_ne.mpr fun e => hb e.symm : (a == b) = false)]
      exact h.v b
  · show b ∈ domOf (m.updAtom a fun x => { x with extn := v })
    unfold domOf; rw [e]
    rcases List.mem_append.mp hb with h1 | h1
    · exact h.m b h1
    · rw [List.mem_singleton.mp h1]; exact ha

theorem head_empty_of_drop (head : List Nat) (ht : Nat) (hc : ¬ (!head.isEmpty || ht == 0) = true) : head = [] := by
  cases head with
  | nil => rfl
  | cons a r => exact absurd rfl hc

theorem XI.step {c : CS} {t : T} (h : XI c t) (hf : c.fail = false) (x : Call) (hx : PlainOk x) : XI (c.apply x) (t.step x) := by
  have nohead : XI c { t with heads := t.heads ++ [] } := ⟨fun b => by rw [h.h, List.append_nil], h.r, h.v, h.m⟩
  -- a condition: `makeAtom` (after `pass`), then an entry in a pending table
  have cond_like : ∀ (y : Call) (cond : List Int), XI ((pass c y).makeAtom cond true).1 t := fun y cond =>
    h.of ((abs_pass c y).symm ▸ makeAtom_steps (pass c y) cond true) ((keepsX_pass c y).trans (keepsX_makeAtom _ cond true))
  cases x with
  | rule ht head body =>
    rw [apply_rule_eq c hf]
    by_cases hc : (!head.isEmpty || ht == 0) = true
    · rw [if_pos hc]; exact (h.heads head (mapLits_steps _ body []) (keepsX_mapLits _ body [])).emit _
    · rw [if_neg hc, head_empty_of_drop head ht hc]; exact nohead
  | sumRule ht head bound body =>
    have base := h.heads head (mapWLits_steps _ body []) (keepsX_mapWLits _ body [])
    rw [apply_sum_eq c hf]
    by_cases hc : (!head.isEmpty || ht == 0) = true
    · rw [if_pos hc]
      split
      · exact base.emit _
      · exact (base.newAux.emit _).emit _
    · rw [if_neg hc, head_empty_of_drop head ht hc]; exact nohead
  | minimize prio lits =>
    rw [apply_minimize_eq c hf prio lits fun p hp => (hx p hp).2]
    exact h.congr rfl rfl
  | output str cond =>
    rw [apply_output_eq c hf]
    exact (h.of (makeAtom_steps c cond true) (keepsX_makeAtom c cond true)).addOutput _ _ _
  | acycEdge a b cond => rw [apply_edge_eq c hf]; exact (cond_like (.acycEdge a b cond) cond).addOutput _ _ _
  | heuristic a t' bias prio cond => rw [apply_heu_eq c hf]; exact (cond_like (.heuristic a t' bias prio cond) cond).setHeur _
  | external a v =>
    have hm := h.of (mapAtom_steps c a) (keepsX_mapAtom c a)
    show XI _ (if t.heads.contains a then t else _)
    rw [apply_external_eq c hf, (mapAtom_snd_flags c a).1, h.h a]
    cases t.heads.contains a
    · exact hm.register a v (mapAtom_dom c a)
    · exact hm
  | _ => exact False.elim hx

def T.run (t : T) (ds : List Call) : T := ds.foldl T.step t

theorem run_append (t : T) (a b : List Call) : t.run (a ++ b) = (t.run a).run b := List.foldl_append ..

theorem run_snoc (t : T) (ds : List Call) (d : Call) : t.run (ds ++ [d]) = (t.run ds).step d := by
  rw [T.run, List.foldl_append]; rfl

theorem headsOf_cons (d : Call) (r : List Call) : headsOf (d :: r) = headsOf [d] ++ headsOf r := by
  unfold headsOf
  rw [← List.flatMap_append, ← rulesOf_append]; rfl

theorem extCalls_append (a b : List Call) : extCalls (a ++ b) = extCalls a ++ extCalls b := List.filterMap_append

theorem extCalls_cons (d : Call) (r : List Call) : extCalls (d :: r) = extCalls [d] ++ extCalls r := extCalls_append [d] r

theorem step_heads (t : T) (d : Call) : (t.step d).heads = t.heads ++ headsOf [d] := by
  cases d with
  | rule ht h b => exact congrArg (t.heads ++ ·) (List.append_nil h).symm
  | sumRule ht h bnd b => exact congrArg (t.heads ++ ·) (List.append_nil h).symm
  | external a v => show (if _ then t else _).heads = t.heads ++ []; rw [List.append_nil]; split <;> rfl
  | _ => exact (List.append_nil _).symm

theorem run_heads (ds : List Call) (t : T) : (t.run ds).heads = t.heads ++ headsOf ds := by
  induction ds generalizing t with
  | nil => exact (List.append_nil _).symm
  | cons d r ih =>
    show ((t.step d).run r).heads = _
    rw [ih, step_heads, List.append_assoc, ← headsOf_cons]

theorem step_heads_sub (t : T) (d : Call) : ∀ a ∈ t.heads, a ∈ (t.step d).heads := by
  intro a ha
  rw [step_heads]; exact List.mem_append_left _ ha

theorem step_cases (t : T) (d : Call) :
    (extCalls [d] = [] ∧ (t.step d).regs = t.regs ∧ (t.step d).vals = t.vals) ∨
    ∃ a v, extCalls [d] = [(a, v)] ∧
      ((t.heads.contains a = true ∧ t.step d = t) ∨
       (t.heads.contains a = false ∧ t.step d = { t with regs := t.regs ++ [a], vals := (a, v) :: t.vals })) := by
  cases d with
  | external a v =>
    refine Or.inr ⟨a, v, rfl, ?_⟩
    show (_ ∧ (if t.heads.contains a then t else _) = t) ∨ (_ ∧ (if t.heads.contains a then t else _) = _)
    cases t.heads.contains a
    · exact Or.inr ⟨rfl, rfl⟩
    · exact Or.inl ⟨rfl, rfl⟩
  | _ => exact Or.inl ⟨rfl, rfl, rfl⟩

/-- `H`: a set that contains every head of the whole step -/
theorem run_regs (ds : List Call) (t : T) (H : List Nat) (hH : ∀ a ∈ (t.run ds).heads, a ∈ H) :
    (t.run ds).regs.filter (fun a => !H.contains a) = t.regs.filter (fun a => !H.contains a) ++ ((extCalls ds).map (·.1)).filter (fun a => !H.contains a) := by
  induction ds generalizing t with
  | nil => exact (List.append_nil _).symm
  | cons d r ih =>
    have hH' : ∀ a ∈ ((t.step d).run r).heads, a ∈ H := hH
    have hsub : ∀ a ∈ (t.step d).heads, a ∈ H := fun a ha => hH' a (by rw [run_heads]; exact List.mem_append_left _ ha)
    show ((t.step d).run r).regs.filter _ = _
    rw [ih (t.step d) hH', extCalls_cons, List.map_append, List.filter_append, ← List.append_assoc]
    congr 1
    rcases step_cases t d with ⟨e1, e2, _⟩ | ⟨a, v, e1, ⟨hc, e⟩ | ⟨_, e⟩⟩
    · rw [e1, e2]; exact (List.append_nil _).symm
    · have : a ∈ H := hsub a (by rw [e]; exact List.contains_iff_mem.mp hc)
      have hf : [a].filter (fun a => !H.contains a) = [] := List.filter_cons_of_neg (by simpa using this)
      rw [e, e1]
      exact ((congrArg _ hf).trans (List.append_nil _)).symm
    · rw [e, e1, List.filter_append]; rfl

theorem run_val (ds : List Call) (t : T) (H : List Nat) (hH : ∀ a ∈ (t.run ds).heads, a ∈ H) (a : Nat) (ha : a ∉ H) :
    (t.run ds).val a = (((extCalls ds).reverse.find? (fun p => p.1 == a)).map (·.2)).getD (t.val a) := by
  induction ds generalizing t with
  | nil => rfl
  | cons d r ih =>
    have hH' : ∀ a ∈ ((t.step d).run r).heads, a ∈ H := hH
    have hsub : ∀ b ∈ (t.step d).heads, b ∈ H := fun b hb => hH' b (by rw [run_heads]; exact List.mem_append_left _ hb)
    show ((t.step d).run r).val a = _
    rw [ih (t.step d) hH', extCalls_cons, List.reverse_append, List.find?_append]
    cases (extCalls r).reverse.find? (fun p => p.1 == a) with
    | some p => rfl
    | none =>
      show (t.step d).val a = (((extCalls [d]).reverse.find? (fun p => p.1 == a)).map (·.2)).getD (t.val a)
      rcases step_cases t d with ⟨e1, _, e3⟩ | ⟨b, v, e1, ⟨hc, e⟩ | ⟨_, e⟩⟩
      · rw [e1, T.val, e3]; rfl
      · have : (b == a) = false := by
          rw [beq_eq_false_iff_ne]; rintro rfl
          exact ha (hsub b (by rw [e]; exact List.contains_iff_mem.mp hc))
        rw [e, e1]
        show _ = ((List.find? (fun p => p.1 == a) [(b, v)]).map (·.2)).getD (t.val a)
        rw [List.find?_cons, this]; rfl
      · rw [e, e1]
        show (((List.find? (fun p => p.1 == a) ((b, v) :: t.vals)).map (·.2)).getD 0) = ((List.find? (fun p => p.1 == a) [(b, v)]).map (·.2)).getD (t.val a)
        rw [List.find?_cons, List.find?_cons]
        cases (b == a) <;> rfl

theorem run_val_last (ds : List Call) (a : Nat) (ha : a ∉ headsOf ds) : (({} : T).run ds).val a = lastExt (extCalls ds) a := by
  have := run_val ds {} (headsOf ds) (by intro b hb; rw [run_heads] at hb; simpa using hb) a ha
  rw [this]; rfl

end PotasscoVerif.C02
