/-
  The program transformation behind `SmodelsConvert`, stated abstractly and proved correct against Spec/Asp.lean:
  rename the atoms by an injection, give an integrity constraint the false atom as head, and route a body through a
  fresh auxiliary atom (`aux :- B.  H :- aux.`) — also for conditions that only need a name.
  `translation_stable` / `translation_stable_back`: the stable models of the two programs correspond one to one.
-/
import PotasscoVerif.Lemmas.AspBasic
namespace PotasscoVerif.Asp

def renLit (m : Nat → Nat) (l : Int) : Int := if l < 0 then -(m l.natAbs : Int) else (m l.natAbs : Int)

def renBody (m : Nat → Nat) : Body → Body
  | .normal ls => .normal (ls.map (renLit m))
  | .sum b wl => .sum b (wl.map (fun p => (renLit m p.1, p.2)))

/-- an empty head becomes the false atom `1` -/
def renHead (m : Nat → Nat) (h : List Nat) : List Nat := if h.isEmpty then [1] else h.map m

structure Ctx where
  dom  : List Nat                -- the mapped input atoms
  m    : Nat → Nat               -- their images
  defs : List (Nat × Body)       -- auxiliary atom ↦ the (input) body that defines it

structure Ctx.Ok (c : Ctx) : Prop where
  inj      : ∀ a ∈ c.dom, ∀ b ∈ c.dom, c.m a = c.m b → a = b
  img2     : ∀ a ∈ c.dom, 2 ≤ c.m a
  imgNoAux : ∀ a ∈ c.dom, ∀ d ∈ c.defs, d.1 ≠ c.m a
  aux2     : ∀ d ∈ c.defs, 2 ≤ d.1
  auxFun   : ∀ d ∈ c.defs, ∀ d' ∈ c.defs, d.1 = d'.1 → d.2 = d'.2
  defAtoms : ∀ d ∈ c.defs, ∀ a ∈ d.2.atoms, a ∈ c.dom
  defOk    : ∀ d ∈ c.defs, d.2.Ok

def renRule (m : Nat → Nat) (r : Rule) : Rule := ⟨r.choice, renHead m r.head, renBody m r.body⟩
def useRule (m : Nat → Nat) (r : Rule) (n : Nat) : Rule := ⟨r.choice, renHead m r.head, .normal [(n : Int)]⟩
def defRule (m : Nat → Nat) (d : Nat × Body) : Rule := ⟨false, [d.1], renBody m d.2⟩

/-- `P'` is a translation of `P`: every rule is renamed, or dropped when it is a choice over nothing, or split through
    the auxiliary atom that stands for its body; every auxiliary atom has its defining rule; nothing else is there. -/
structure Trans (c : Ctx) (P P' : List Rule) : Prop where
  inOk : ∀ r ∈ P, (∀ a ∈ r.head, a ∈ c.dom) ∧ (∀ a ∈ r.body.atoms, a ∈ c.dom) ∧ r.body.Ok
  s1 : ∀ r' ∈ P', (∃ r ∈ P, r' = renRule c.m r) ∨ (∃ d ∈ c.defs, r' = defRule c.m d) ∨
        (∃ r ∈ P, ∃ n, (n, r.body) ∈ c.defs ∧ r' = useRule c.m r n)
  s2 : ∀ r ∈ P, (r.choice = true ∧ r.head = []) ∨ renRule c.m r ∈ P' ∨ ∃ n, (n, r.body) ∈ c.defs ∧ useRule c.m r n ∈ P'
  s3 : ∀ d ∈ c.defs, defRule c.m d ∈ P'

/-- the input interpretation seen through the map -/
def Ctx.R (c : Ctx) (X' : I) : I := fun a => c.dom.contains a && X' (c.m a)

/-- the output interpretation that belongs to the reduct pair `(X, Y)`: images carry the value of their atom,
    an auxiliary atom the value of its body -/
def Ctx.E (c : Ctx) (X Y : I) : I := fun n =>
  match c.dom.find? (fun a => c.m a == n) with
  | some a => Y a
  | none =>
    match c.defs.find? (fun d => d.1 == n) with
    | some d => bodyR X Y d.2
    | none => false

theorem R_dom {c : Ctx} (Z : I) {a : Nat} (ha : a ∈ c.dom) : c.R Z a = Z (c.m a) := by
  unfold Ctx.R; rw [List.contains_iff_mem.mpr ha]; rfl

theorem Ctx.cases (c : Ctx) (n : Nat) :
    (∃ a ∈ c.dom, c.m a = n) ∨ (∃ d ∈ c.defs, d.1 = n) ∨ ((∀ a ∈ c.dom, c.m a ≠ n) ∧ ∀ d ∈ c.defs, d.1 ≠ n) := by
  by_cases h1 : ∃ a ∈ c.dom, c.m a = n
  · exact Or.inl h1
  by_cases h2 : ∃ d ∈ c.defs, d.1 = n
  · exact Or.inr (Or.inl h2)
  · exact Or.inr (Or.inr ⟨fun a ha e => h1 ⟨a, ha, e⟩, fun d hd e => h2 ⟨d, hd, e⟩⟩)

theorem E_other {c : Ctx} (X Y : I) (n : Nat) (h1 : ∀ a ∈ c.dom, c.m a ≠ n) (h2 : ∀ d ∈ c.defs, d.1 ≠ n) : c.E X Y n = false := by
  unfold Ctx.E
  rw [List.find?_eq_none.mpr fun a ha e => h1 a ha (eq_of_beq e), List.find?_eq_none.mpr fun d hd e => h2 d hd (eq_of_beq e)]

theorem headR_ren {c : Ctx} (X' Y' : I) (r : Rule) (hd : ∀ a ∈ r.head, a ∈ c.dom) (h1 : Y' 1 = false) (hx1 : X' 1 = false) (B' : Body) :
    headR X' Y' ⟨r.choice, renHead c.m r.head, B'⟩ = headR (c.R X') (c.R Y') r := by
  unfold headR renHead
  cases hh : r.head with
  | nil => cases r.choice <;> simp [h1, hx1]
  | cons a t =>
    rw [hh] at hd
    cases r.choice
    · show ((a :: t).map c.m).any Y' = (a :: t).any (c.R Y')
      rw [List.any_map]
      exact any_congr_mem fun b hb => (R_dom Y' (hd b hb)).symm
    · show ((a :: t).map c.m).all (fun n => !X' n || Y' n) = (a :: t).all fun b => !c.R X' b || c.R Y' b
      rw [List.all_map]
      exact all_congr_mem fun b hb => by rw [R_dom X' (hd b hb), R_dom Y' (hd b hb)]; rfl

theorem satR_defRule (m : Nat → Nat) (X' Y' : I) (d : Nat × Body) :
    satR X' Y' (defRule m d) = (!bodyR X' Y' (renBody m d.2) || Y' d.1) :=
  congrArg (!bodyR X' Y' (renBody m d.2) || ·) (Bool.or_false _)

theorem satR_useRule (m : Nat → Nat) (X' Y' : I) (r : Rule) (n : Nat) (hn : 0 < n) :
    satR X' Y' (useRule m r n) = (!Y' n || headR X' Y' ⟨r.choice, renHead m r.head, r.body⟩) :=
  congrArg (fun b => !b || headR X' Y' ⟨r.choice, renHead m r.head, .normal [(n : Int)]⟩) (bodyR_atom X' Y' n hn)

section
variable {c : Ctx} (ok : c.Ok)
include ok

theorem E_img (X Y : I) (a : Nat) (ha : a ∈ c.dom) : c.E X Y (c.m a) = Y a := by
  unfold Ctx.E
  cases h : c.dom.find? (fun b => c.m b == c.m a) with
  | none => exact absurd (beq_self_eq_true _) (List.find?_eq_none.mp h a ha)
  | some b =>
    have he := List.find?_some h
    exact congrArg Y (ok.inj b (List.mem_of_find?_eq_some h) a ha (eq_of_beq he))

theorem E_aux (X Y : I) (d : Nat × Body) (hd : d ∈ c.defs) : c.E X Y d.1 = bodyR X Y d.2 := by
  unfold Ctx.E
  rw [List.find?_eq_none.mpr fun b hb e => ok.imgNoAux b hb d hd (eq_of_beq e).symm]
  cases h : c.defs.find? (fun e => e.1 == d.1) with
  | none => exact absurd (beq_self_eq_true _) (List.find?_eq_none.mp h d hd)
  | some e =>
    have he := List.find?_some h
    exact congrArg (bodyR X Y) (ok.auxFun e (List.mem_of_find?_eq_some h) d hd (eq_of_beq he))

theorem E_one (X Y : I) : c.E X Y 1 = false := by
  apply E_other
  · intro a ha e; have := ok.img2 a ha; omega
  · intro d hd e; have := ok.aux2 d hd; omega

theorem R_E (X Y : I) (a : Nat) (ha : a ∈ c.dom) : c.R (c.E X Y) a = Y a :=
  (R_dom _ ha).trans (E_img ok X Y a ha)

theorem E_mono (X : I) {Y Y2 : I} (h : Sub Y Y2) : Sub (c.E X Y) (c.E X Y2) := by
  intro n
  rcases c.cases n with ⟨a, ha, rfl⟩ | ⟨d, hd, rfl⟩ | ⟨h1, h2⟩
  · rw [E_img ok X Y a ha, E_img ok X Y2 a ha]; exact h a
  · rw [E_aux ok X Y d hd, E_aux ok X Y2 d hd]
    exact bodyR_mono X h d.2 (ok.defOk d hd)
  · rw [E_other X Y n h1 h2]
    exact fun hf => absurd hf Bool.false_ne_true

theorem litR_ren (X' Y' : I) (l : Int) (hl : l ≠ 0) (hd : l.natAbs ∈ c.dom) :
    litR X' Y' (renLit c.m l) = litR (c.R X') (c.R Y') l := by
  have h2 := ok.img2 _ hd
  unfold litR renLit
  rw [R_dom X' hd, R_dom Y' hd]
  by_cases hneg : l < 0
  · rw [if_pos hneg, if_neg (by omega), if_neg (by omega), Int.natAbs_neg, Int.natAbs_natCast]
  · rw [if_neg hneg, if_pos (by omega), if_pos (by omega), Int.natAbs_natCast]

theorem wsum_ren (X' Y' : I) (wl : List (Int × Int)) (h : ∀ p ∈ wl, p.1 ≠ 0 ∧ p.1.natAbs ∈ c.dom) :
    wsum X' Y' (wl.map (fun p => (renLit c.m p.1, p.2))) = wsum (c.R X') (c.R Y') wl := by
  induction wl with
  | nil => rfl
  | cons p r ih =>
    have hp := h p List.mem_cons_self
    rw [List.map_cons, wsum_cons, wsum_cons, ih fun q hq => h q (List.mem_cons_of_mem _ hq)]
    show (if litR X' Y' (renLit c.m p.1) then _ else _) + _ = _
    rw [litR_ren ok X' Y' p.1 hp.1 hp.2]

theorem bodyR_ren (X' Y' : I) (B : Body) (hok : B.Ok) (hd : ∀ a ∈ B.atoms, a ∈ c.dom) :
    bodyR X' Y' (renBody c.m B) = bodyR (c.R X') (c.R Y') B := by
  cases B with
  | normal ls =>
    simp only [renBody, bodyR]
    rw [List.all_map]
    exact all_congr_mem fun l hl => litR_ren ok X' Y' l (hok l hl) (hd _ (List.mem_map_of_mem hl))
  | sum b wl =>
    simp only [renBody, bodyR]
    rw [wsum_ren ok X' Y' wl fun p hp => ⟨(hok p hp).1, hd _ (List.mem_map_of_mem (f := fun p : Int × Int => p.1.natAbs) hp)⟩]

theorem bodyR_ren_E (X Y : I) (B : Body) (hok : B.Ok) (hd : ∀ a ∈ B.atoms, a ∈ c.dom) :
    bodyR (c.E X X) (c.E X Y) (renBody c.m B) = bodyR X Y B := by
  rw [bodyR_ren ok _ _ B hok hd]
  exact bodyR_congr B fun a ha => ⟨R_E ok X X a (hd a ha), R_E ok X Y a (hd a ha)⟩

theorem headR_ren_E (X Y : I) (r : Rule) (hd : ∀ a ∈ r.head, a ∈ c.dom) (B' : Body) :
    headR (c.E X X) (c.E X Y) ⟨r.choice, renHead c.m r.head, B'⟩ = headR X Y r := by
  rw [headR_ren (c.E X X) (c.E X Y) r hd (E_one ok X Y) (E_one ok X X)]
  exact headR_congr r fun a ha => ⟨R_E ok X X a (hd a ha), R_E ok X Y a (hd a ha)⟩

theorem renLit_ne_zero (l : Int) (hd : l.natAbs ∈ c.dom) : renLit c.m l ≠ 0 := by
  have := ok.img2 _ hd
  unfold renLit; split <;> omega

theorem renBody_ok (B : Body) (hok : B.Ok) (hd : ∀ a ∈ B.atoms, a ∈ c.dom) : (renBody c.m B).Ok := by
  cases B with
  | normal ls =>
    simp only [renBody, Body.Ok, List.mem_map]
    rintro _ ⟨l, hl, rfl⟩
    exact renLit_ne_zero ok l (hd _ (List.mem_map_of_mem hl))
  | sum b wl =>
    simp only [renBody, Body.Ok, List.mem_map]
    rintro _ ⟨p, hp, rfl⟩
    exact ⟨renLit_ne_zero ok p.1 (hd _ (List.mem_map_of_mem (f := fun p : Int × Int => p.1.natAbs) hp)), (hok p hp).2⟩

end

section
variable {c : Ctx} (ok : c.Ok) {P P' : List Rule} (tr : Trans c P P') {X : I}
include ok tr

theorem modelR_forth (X Y : I) (h : ModelR P X Y) : ModelR P' (c.E X X) (c.E X Y) := by
  intro r' hr'
  rcases tr.s1 r' hr' with ⟨r, hr, rfl⟩ | ⟨d, hd, rfl⟩ | ⟨r, hr, n, hn, rfl⟩
  · obtain ⟨h1, h2, h3⟩ := tr.inOk r hr
    unfold satR renRule
    rw [headR_ren_E ok X Y r h1]
    show (!bodyR _ _ (renBody c.m r.body) || _) = true
    rw [bodyR_ren_E ok X Y r.body h3 h2]
    exact h r hr
  · rw [satR_defRule, bodyR_ren_E ok X Y d.2 (ok.defOk d hd) (ok.defAtoms d hd), E_aux ok X Y d hd]
    cases bodyR X Y d.2 <;> rfl
  · rw [satR_useRule _ _ _ r n (Nat.lt_of_lt_of_le Nat.zero_lt_two (ok.aux2 _ hn)), headR_ren_E ok X Y r (tr.inOk r hr).1,
      E_aux ok X Y (n, r.body) hn]
    exact h r hr

theorem modelR_back (X' Y' : I) (hsub : Sub Y' X') (h1 : X' 1 = false) (h : ModelR P' X' Y') : ModelR P (c.R X') (c.R Y') := by
  have hy1 : Y' 1 = false := Bool.eq_false_iff.mpr fun hy => Bool.false_ne_true (h1 ▸ hsub 1 hy)
  intro r hr
  obtain ⟨i1, i2, i3⟩ := tr.inOk r hr
  unfold satR
  rw [← bodyR_ren ok X' Y' r.body i3 i2, ← headR_ren X' Y' r i1 hy1 h1 r.body]
  rcases tr.s2 r hr with ⟨hc, hh⟩ | hmem | ⟨n, hn, hmem⟩
  · rw [headR, renHead, hc, hh]; simp [hy1, h1]
  · exact h _ hmem
  · -- the body makes the auxiliary atom true, and that the head
    have hdef := h _ (tr.s3 _ hn)
    have huse := h _ hmem
    rw [satR_defRule] at hdef
    rw [satR_useRule _ _ _ r n (Nat.lt_of_lt_of_le Nat.zero_lt_two (ok.aux2 _ hn))] at huse
    cases hb : bodyR X' Y' (renBody c.m r.body)
    · rfl
    · rw [hb] at hdef
      rw [show Y' n = true from hdef] at huse
      exact huse

theorem out_ok : ∀ r' ∈ P', r'.body.Ok := by
  intro r' hr'
  rcases tr.s1 r' hr' with ⟨r, hr, rfl⟩ | ⟨d, hd, rfl⟩ | ⟨r, hr, n, hn, rfl⟩
  · obtain ⟨_, h2, h3⟩ := tr.inOk r hr
    exact renBody_ok ok r.body h3 h2
  · exact renBody_ok ok d.2 (ok.defOk d hd) (ok.defAtoms d hd)
  · have := ok.aux2 _ hn
    simp only [useRule, Body.Ok, List.mem_singleton]
    intro l hl; subst hl; simp only at this; omega

omit ok in
theorem out_heads (r' : Rule) (hr' : r' ∈ P') (n : Nat) (hn : n ∈ r'.head) :
    n = 1 ∨ (∃ a ∈ c.dom, c.m a = n) ∨ (∃ d ∈ c.defs, d.1 = n ∧ r' = defRule c.m d) := by
  have hren : ∀ r ∈ P, n ∈ renHead c.m r.head → n = 1 ∨ (∃ a ∈ c.dom, c.m a = n) ∨ (∃ d ∈ c.defs, d.1 = n ∧ r' = defRule c.m d) := by
    intro r hr hm
    unfold renHead at hm
    split at hm
    · exact Or.inl (List.mem_singleton.mp hm)
    · obtain ⟨a, ha, rfl⟩ := List.mem_map.mp hm
      exact Or.inr (Or.inl ⟨a, (tr.inOk r hr).1 a ha, rfl⟩)
  rcases tr.s1 r' hr' with ⟨r, hr, rfl⟩ | ⟨d, hd, rfl⟩ | ⟨r, hr, k, hk, rfl⟩
  · exact hren r hr hn
  · exact Or.inr (Or.inr ⟨d, hd, (List.mem_singleton.mp hn).symm, rfl⟩)
  · exact hren r hr hn

/-- **forth**: a stable model of the input, extended by the values of the auxiliary atoms, is a stable model of the
    output in which the false atom is false -/
theorem translation_stable (hs : Stable P X) : Stable P' (c.E X X) ∧ c.E X X 1 = false ∧ c.R (c.E X X) = X := by
  suffices h : Stable P' (c.E X X) ∧ c.R (c.E X X) = X from ⟨h.1, E_one ok X X, h.2⟩
  have RX : c.R (c.E X X) = X := by
    funext a
    by_cases ha : a ∈ c.dom
    · exact R_E ok X X a ha
    · -- a true atom is a head atom, and those are mapped
      cases hx : X a with
      | false => unfold Ctx.R; rw [List.contains_eq_mem, decide_eq_false ha]; rfl
      | true =>
        obtain ⟨r, hr, hm⟩ := stable_in_heads P (fun r hr => (tr.inOk r hr).2.2) X hs a hx
        exact absurd ((tr.inOk r hr).1 a hm) ha
  refine ⟨⟨modelR_forth ok tr X X hs.1, ?_⟩, RX⟩
  intro Y' hsub hm
  have hb := modelR_back ok tr (c.E X X) Y' hsub (E_one ok X X) hm
  rw [RX] at hb
  have hsubR : Sub (c.R Y') X := by
    intro a ha
    simp only [Ctx.R, Bool.and_eq_true, List.contains_iff_mem] at ha
    have := hsub _ ha.2
    rwa [E_img ok X X a ha.1] at this
  have hXR := hs.2 _ hsubR hb
  intro n hn
  rcases c.cases n with ⟨a, ha, rfl⟩ | ⟨d, hd, rfl⟩ | ⟨h1, h2⟩
  · rw [E_img ok X X a ha] at hn
    exact R_dom Y' ha ▸ hXR a hn
  · rw [E_aux ok X X d hd] at hn
    have hsat := hm _ (tr.s3 d hd)
    rwa [satR_defRule, bodyR_ren ok _ _ d.2 (ok.defOk d hd) (ok.defAtoms d hd), RX, sub_antisymm hsubR hXR, hn] at hsat
  · rw [E_other X X n h1 h2] at hn
    exact absurd hn Bool.false_ne_true

/-- **back**: every stable model of the output in which the false atom is false comes from a stable model of the
    input — its restriction to the mapped atoms — and is determined by it -/
theorem translation_stable_back (X' : I) (hs : Stable P' X') (h1 : X' 1 = false) :
    Stable P (c.R X') ∧ X' = c.E (c.R X') (c.R X') := by
  have hP'ok := out_ok ok tr
  have hgood : X' = c.E (c.R X') (c.R X') := by
    funext n
    rcases c.cases n with ⟨a, ha, rfl⟩ | ⟨d, hd, rfl⟩ | ⟨hi, hx⟩
    · rw [E_img ok _ _ a ha, R_dom X' ha]
    · rw [E_aux ok _ _ d hd, ← bodyR_ren ok X' X' d.2 (ok.defOk d hd) (ok.defAtoms d hd)]
      cases hb : bodyR X' X' (renBody c.m d.2)
      · -- an auxiliary atom that is true is supported by its defining rule
        apply Bool.eq_false_iff.mpr
        intro hv
        obtain ⟨r', hr', hm, hbody⟩ := stable_supported P' hP'ok X' hs d.1 hv
        rcases out_heads tr r' hr' d.1 hm with h | ⟨a, ha, h⟩ | ⟨d2, hd2, h, rfl⟩
        · have := ok.aux2 d hd; omega
        · exact ok.imgNoAux a ha d hd h.symm
        · have hbody : bodyR X' (without X' d.1) (renBody c.m d2.2) = true := hbody
          rw [ok.auxFun d2 hd2 d hd h] at hbody
          have := bodyR_mono X' (without_sub X' d.1) _ (renBody_ok ok d.2 (ok.defOk d hd) (ok.defAtoms d hd)) hbody
          exact Bool.false_ne_true (hb ▸ this)
      · have hsat := hs.1 _ (tr.s3 d hd)
        rwa [satR_defRule, hb] at hsat
    · rw [E_other _ _ n hi hx]
      apply Bool.eq_false_iff.mpr
      intro hv
      obtain ⟨r', hr', hm⟩ := stable_in_heads P' hP'ok X' hs n hv
      rcases out_heads tr r' hr' n hm with h | ⟨a, ha, h⟩ | ⟨d2, hd2, h, _⟩
      · subst h; exact Bool.false_ne_true (h1 ▸ hv)
      · exact hi a ha h
      · exact hx d2 hd2 h
  refine ⟨⟨modelR_back ok tr X' X' (Sub.refl _) h1 hs.1, ?_⟩, hgood⟩
  intro Y hsub hm
  have hf := modelR_forth ok tr (c.R X') Y hm
  rw [← hgood] at hf
  have hsubE : Sub (c.E (c.R X') Y) X' := by
    have := E_mono ok (c.R X') hsub
    rwa [← hgood] at this
  have hX'E := hs.2 _ hsubE hf
  intro a ha
  simp only [Ctx.R, Bool.and_eq_true, List.contains_iff_mem] at ha
  have := hX'E _ ha.2
  rwa [E_img ok _ _ a ha.1] at this

end
end PotasscoVerif.Asp
