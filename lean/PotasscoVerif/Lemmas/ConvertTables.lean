/-
  The two sorted tables of the converter (Model/Convert.lean), apart from the converter: sorting the pending symbols only permutes them; inserting
  a minimize statement into the pending table adds its value to the cost of its priority and keeps all literals non-zero.
-/
import PotasscoVerif.Model.Convert
import PotasscoVerif.Lemmas.AspBasic
namespace PotasscoVerif.C02
open PotasscoVerif PotasscoVerif.Convert PotasscoVerif.Asp

theorem insertSym_perm (x : Nat × List Nat) (l : List (Nat × List Nat)) : (insertSym x l).Perm (x :: l) := by
  induction l with
  | nil => exact .refl _
  | cons y r ih =>
    unfold insertSym
    split
    · exact .refl _
    · exact (ih.cons y).trans (.swap x y r)

theorem sortSyms_perm (l : List (Nat × List Nat)) : (sortSyms l).Perm l := by
  have gen : ∀ l acc : List (Nat × List Nat), (l.foldl (fun acc x => insertSym x acc) acc).Perm (l ++ acc) := by
    intro l
    induction l with
    | nil => exact fun _ => .refl _
    | cons x r ih => exact fun acc => (ih _).trans (((insertSym_perm x acc).append_left r).trans List.perm_middle)
  exact (gen l []).trans (.of_eq (List.append_nil l))

/-- value of the statements of priority `p` in a table of statements -/
def costM (X : I) (m : List (Int × List (Int × Int))) (p : Int) : Int :=
  ((m.filter (fun q => q.1 == p)).map (fun q => wsum X X q.2)).sum

theorem costM_cons (X : I) (q : Int × List (Int × Int)) (m : List (Int × List (Int × Int))) (p : Int) :
    costM X (q :: m) p = (if q.1 == p then wsum X X q.2 else 0) + costM X m p := by
  unfold costM
  rw [List.filter_cons]
  split
  · rfl
  · exact (Int.zero_add _).symm

theorem costM_append (X : I) (a b : List (Int × List (Int × Int))) (p : Int) : costM X (a ++ b) p = costM X a p + costM X b p := by
  unfold costM
  rw [List.filter_append, List.map_append, List.sum_append]

theorem costM_single (X : I) (q : Int) (ls : List (Int × Int)) (p : Int) :
    costM X [(q, ls)] p = if q == p then wsum X X ls else 0 :=
  (costM_cons X (q, ls) [] p).trans (Int.add_zero _)

/-- `insertMin` into a non-empty table: the statement joins the first entry, goes in front of it, or goes on -/
theorem insertMin_cons (e : Int × List (Int × Int)) (r : List (Int × List (Int × Int))) (p : Int) (ls : List (Int × Int)) :
    (e.1 = p ∧ insertMin (e :: r) p ls = (e.1, e.2 ++ ls) :: r) ∨ insertMin (e :: r) p ls = (p, ls) :: e :: r ∨
      insertMin (e :: r) p ls = e :: insertMin r p ls := by
  have h : insertMin (e :: r) p ls = if e.1 == p then (e.1, e.2 ++ ls) :: r else if p < e.1 then (p, ls) :: e :: r else e :: insertMin r p ls := rfl
  rw [h]
  by_cases c1 : (e.1 == p) = true
  · exact .inl ⟨eq_of_beq c1, if_pos c1⟩
  · rw [if_neg c1]
    by_cases c2 : p < e.1
    · exact .inr (.inl (if_pos c2))
    · exact .inr (.inr (if_neg c2))

theorem costM_insertMin (X : I) (m : List (Int × List (Int × Int))) (q : Int) (ls : List (Int × Int)) (p : Int) :
    costM X (insertMin m q ls) p = costM X m p + (if q == p then wsum X X ls else 0) := by
  induction m with
  | nil => exact (costM_single X q ls p).trans (Int.zero_add _).symm
  | cons e r ih =>
    rcases insertMin_cons e r q ls with ⟨hk, h⟩ | h | h <;> rw [h, costM_cons, costM_cons]
    · rw [hk]
      dsimp only
      split
      · rw [wsum_append, Int.add_right_comm]
      · exact (Int.add_zero _).symm
    · exact Int.add_comm _ _
    · rw [ih, Int.add_assoc]

theorem flipNeg_ne (q : Int × Int) (h : q.1 ≠ 0) : (flipNeg q).1 ≠ 0 := by
  unfold flipNeg
  split
  · exact Int.neg_ne_zero.mpr h
  · exact h

theorem insertMin_nz (m : List (Int × List (Int × Int))) (p : Int) (ls : List (Int × Int)) (hm : ∀ pl ∈ m, ∀ q ∈ pl.2, q.1 ≠ 0)
    (hl : ∀ q ∈ ls, q.1 ≠ 0) : ∀ pl ∈ insertMin m p ls, ∀ q ∈ pl.2, q.1 ≠ 0 := by
  induction m with
  | nil => exact List.forall_mem_singleton.mpr hl
  | cons e r ih =>
    obtain ⟨he, hr⟩ := List.forall_mem_cons.mp hm
    rcases insertMin_cons e r p ls with ⟨_, h⟩ | h | h <;> rw [h]
    · exact List.forall_mem_cons.mpr ⟨List.forall_mem_append.mpr ⟨he, hl⟩, hr⟩
    · exact List.forall_mem_cons.mpr ⟨hl, hm⟩
    · exact List.forall_mem_cons.mpr ⟨he, ih hr⟩

end PotasscoVerif.C02
