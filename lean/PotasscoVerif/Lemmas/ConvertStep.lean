/-
  One program step of the converter model, from any state: what a plain call leaves alone (`Frame`), and what the end of the step does to the
  invariants of Lemmas/ConvertSem.lean — the translation invariant (`J.flush`), the pending output directives and minimize statements
  (`K.endStep`, `M.endStep`) —, with the passage to the abstract translation of Lemmas/AspTrans.lean (`ctxOf`, `ctx_trans`).
-/
import PotasscoVerif.Lemmas.ConvertFlags
import PotasscoVerif.Lemmas.ConvertTables
import PotasscoVerif.Lemmas.ExtShape
namespace PotasscoVerif.C02
open PotasscoVerif PotasscoVerif.Convert PotasscoVerif.Asp

def minOf : Call → Option (Int × List (Int × Int))
  | .minimize p ls => some (p, ls)
  | _ => none
def minsOf (cs : List Call) : List (Int × List (Int × Int)) := cs.filterMap minOf
theorem minsOf_append (a b : List Call) : minsOf (a ++ b) = minsOf a ++ minsOf b := List.filterMap_append

def isHeu : Call → Bool
  | .heuristic .. => true
  | _ => false

theorem isHeu_inv {x : Call} (h : isHeu x = true) : ∃ a t b p cond, x = .heuristic a t b p cond := by
  cases x with
  | heuristic a t b p cond => exact ⟨a, t, b, p, cond, rfl⟩
  | _ => cases h

theorem minOf_inv {x : Call} {pl} (h : minOf x = some pl) : ∃ prio lits, x = .minimize prio lits := by
  cases x with
  | minimize prio lits => exact ⟨prio, lits, rfl⟩
  | _ => cases h

theorem quiet_minOf {y : Call} (h : quiet y = true) : minOf y = none := by cases y <;> first | rfl | cases h
theorem quiet_extOf {y : Call} (h : quiet y = true) : extOf y = none := by cases y <;> first | rfl | cases h

/-! ### what a call of a step leaves alone
  It maps atoms and emits quiet calls; of the pending tables it changes its own only. -/
structure Frame (c c' : CS) (x : Call) : Prop where
  out      : ∃ rs, c'.out = c.out ++ rs ∧ ∀ y ∈ rs, quiet y = true
  fail     : c'.fail = c.fail
  ext      : c'.ext = c.ext
  minimize : minOf x = none → c'.minimize = c.minimize
  heur     : isHeu x = false → c'.heur = c.heur
  syms     : srcOut x = none → c'.symTab = c.symTab ∧ c'.output = c.output

theorem Frame.of_maps {c c' : CS} (h : Maps c c') (x : Call) : Frame c c' x :=
  ⟨h.out, h.fail, h.ext, fun _ => h.minimize, fun _ => h.heur, fun _ => ⟨h.symTab, h.output⟩⟩

theorem Frame.view {c c' : CS} {x : Call} (h : Frame c c' x) {α : Type} (f : Call → Option α) (hf : ∀ y, quiet y = true → f y = none) :
    c'.out.filterMap f = c.out.filterMap f := by
  obtain ⟨rs, e, hq⟩ := h.out
  rw [e, List.filterMap_append, List.filterMap_eq_nil_iff.mpr fun y hy => hf y (hq y hy), List.append_nil]

/-- about a variable state `m`, the state after the atom of a condition is made -/
theorem Frame.addOutput {c m : CS} {x : Call} (h : Maps c m) (n : Nat) (str : List Nat) (hash : Bool) (hs : srcOut x ≠ none) :
    Frame c (m.addOutput n str hash) x :=
  ⟨h.out, h.fail, h.ext, fun _ => h.minimize, fun _ => h.heur, fun e => absurd e hs⟩

theorem Frame.addHeur {c m : CS} {x : Call} (h : Maps c m) (hs : List Heu) (hx : isHeu x = true) : Frame c { m with heur := hs } x :=
  ⟨h.out, h.fail, h.ext, fun _ => h.minimize, fun e => absurd hx (e ▸ Bool.false_ne_true), fun _ => ⟨h.symTab, h.output⟩⟩

theorem apply_frame (c : CS) (hf : c.fail = false) (x : Call) (hx : PlainOk x) : Frame c (c.apply x) x := by
  cases x with
  | rule ht head body => exact .of_maps (maps_rule c hf ht head body) _
  | sumRule ht head bound body => exact .of_maps (maps_sum c hf ht head bound body) _
  | external a v => exact .of_maps (maps_external c hf a v) _
  | minimize prio lits =>
    rw [apply_minimize_eq c hf prio lits fun p hp => (hx p hp).2]
    exact ⟨⟨[], (List.append_nil _).symm, (List.forall_mem_nil _)⟩, rfl, rfl, fun h => (nomatch h), fun _ => rfl, fun _ => ⟨rfl, rfl⟩⟩
  | output str cond => rw [apply_output_eq c hf]; exact .addOutput (maps_makeAtom c cond true) _ _ _ (fun h => nomatch h)
  | acycEdge a b cond =>
    rw [apply_edge_eq c hf]
    exact .addOutput ((maps_pass c (.acycEdge a b cond) rfl).trans (maps_makeAtom _ cond true)) _ _ _ (fun h => nomatch h)
  | heuristic a t b p cond =>
    rw [apply_heu_eq c hf]
    exact .addHeur ((maps_pass c (.heuristic a t b p cond) rfl).trans (maps_makeAtom _ cond true)) _ rfl
  | _ => exact False.elim hx

theorem run_frame {c : CS} (hf : c.fail = false) (ds : List Call) (hx : ∀ d ∈ ds, PlainOk d) :
    (ds.foldl CS.apply c).ext = c.ext ∧ extCalls (ds.foldl CS.apply c).out = extCalls c.out ∧
    ((∀ d ∈ ds, isHeu d = false) → (ds.foldl CS.apply c).heur = c.heur) := by
  have := run_ind (Q := fun c' src => c'.fail = false ∧ c'.ext = c.ext ∧ extCalls c'.out = extCalls c.out ∧
      ((∀ d ∈ src, isHeu d = false) → c'.heur = c.heur))
    (fun c' src d hd ⟨h0, h1, h2, h3⟩ => by
      have fr := apply_frame c' h0 d hd
      exact ⟨fr.fail.trans h0, fr.ext.trans h1, (fr.view extOf fun _ => quiet_extOf).trans h2, fun hn =>
        (fr.heur (hn d (List.mem_append_right _ (List.mem_singleton_self d)))).trans (h3 fun e he => hn e (List.mem_append_left _ he))⟩)
    ds hx (c := c) (src := []) ⟨hf, rfl, rfl, fun _ => rfl⟩
  rw [List.nil_append] at this
  exact this.2

/-! ### the externals flush -/
def sm (c : CS) (a : Nat) : Nat := match c.find a with | some x => x.smId | none => 0
/-- the pending externals of value `v` on atoms no rule has defined -/
def pendOf (c : CS) (v : Nat) : List Nat := c.externs.filter (fun a => !hd c a && ex c a == v)
def extCallsOut (c : CS) : List Call := extShapeCalls ((pendOf c 1).map (sm c)) ((pendOf c 0).map (sm c))
def extCallsT (c : CS) : List Call := c.externs.map (fun a => Call.external (sm c a) (ex c a))

/-- the loop body of `flushExternal` -/
def extStep (st : CS × List Nat) (a : Nat) : CS × List Nat :=
  let m := st.1.mapAtom a
  if !st.1.ext then
    if m.2.head then (m.1, st.2)
    else if m.2.extn == 0 then (m.1, st.2 ++ [m.2.smId])
    else if m.2.extn == 1 then (m.1.emit (.rule 0 [m.2.smId] []), st.2)
    else (m.1, st.2)
  else (m.1.emit (.external m.2.smId m.2.extn), st.2)

theorem flushExternal_eq (c : CS) : c.flushExternal =
    if (c.externs.foldl extStep (c, [])).2.isEmpty then (c.externs.foldl extStep (c, [])).1
    else (c.externs.foldl extStep (c, [])).1.emit (.rule 1 (c.externs.foldl extStep (c, [])).2 []) := rfl

/-- what the loop emits for an atom with image `n`, `head` flag `h` and value `v`, and what it collects for the final choice rule -/
def extEmit (ext : Bool) (n : Nat) (h : Bool) (v : Nat) : List Call :=
  if ext then [.external n v] else if !h && v == 1 then [.rule 0 [n] []] else []
def extFree (ext : Bool) (n : Nat) (h : Bool) (v : Nat) : List Nat := if !ext && (!h && v == 0) then [n] else []

theorem foldl_emit_eq (l : List Call) (c : CS) : l.foldl CS.emit c = { c with out := c.out ++ l } :=
  (foldl_emit id l c).trans (by rw [List.map_id])

theorem extStep_mapped (c0 : CS) (acc : List Nat) (a : Nat) (x : CAtom) (h : c0.find a = some x) :
    extStep (c0, acc) a = ((extEmit c0.ext x.smId x.head x.extn).foldl CS.emit c0, acc ++ extFree c0.ext x.smId x.head x.extn) := by
  have hmap : c0.mapAtom a = (c0, x) := by unfold CS.mapAtom; rw [h]
  have nil : ∀ s : CS, (s, acc) = (s, acc ++ []) := fun s => Prod.ext rfl (List.append_nil _).symm
  unfold extStep extEmit extFree
  rw [hmap]
  dsimp only
  cases c0.ext
  · cases x.head
    · generalize x.extn = v
      rcases v with _ | _ | v
      · rfl
      · exact nil _
      · exact nil _
    · exact nil _
  · exact nil _

theorem extFold (c : CS) (l : List Nat) (hm : ∀ a ∈ l, (c.find a).isSome = true) (c0 : CS) (acc : List Nat)
    (hat : c0.atoms = c.atoms) (hext : c0.ext = c.ext) :
    l.foldl extStep (c0, acc) =
      ((l.flatMap fun a => extEmit c.ext (sm c a) (hd c a) (ex c a)).foldl CS.emit c0,
        acc ++ l.flatMap fun a => extFree c.ext (sm c a) (hd c a) (ex c a)) := by
  induction l generalizing c0 acc with
  | nil => exact Prod.ext rfl (List.append_nil _).symm
  | cons a r ih =>
    obtain ⟨x, hx⟩ := Option.isSome_iff_exists.mp (hm a List.mem_cons_self)
    have hx0 : c0.find a = some x := by unfold CS.find at hx ⊢; rw [hat]; exact hx
    have e : sm c a = x.smId ∧ hd c a = x.head ∧ ex c a = x.extn := by unfold sm hd ex; rw [hx]; exact ⟨rfl, rfl, rfl⟩
    rw [List.foldl_cons, extStep_mapped c0 acc a x hx0,
      ih (fun b hb => hm b (List.mem_cons_of_mem _ hb)) _ _ (by rw [foldl_emit_eq]; exact hat) (by rw [foldl_emit_eq]; exact hext),
      List.flatMap_cons, List.flatMap_cons, List.foldl_append, e.1, e.2.1, e.2.2, hext, List.append_assoc]

theorem flatMap_if {α β : Type} (l : List α) (p : α → Bool) (f : α → β) : (l.flatMap fun a => if p a then [f a] else []) = (l.filter p).map f := by
  induction l with
  | nil => rfl
  | cons a r ih => rw [List.flatMap_cons, ih, List.filter_cons]; split <;> rfl

theorem flushExternal_spec (c : CS) (he : c.ext = false) (hm : ∀ a ∈ c.externs, (c.find a).isSome = true) :
    c.flushExternal = { c with out := c.out ++ extCallsOut c } := by
  rw [flushExternal_eq, extFold c c.externs hm c [] rfl rfl]
  simp only [he, extEmit, extFree, Bool.false_eq_true, ↓reduceIte, Bool.not_false, Bool.true_and, flatMap_if, List.nil_append,
    extCallsOut, extShapeCalls, pendOf, List.isEmpty_map, List.map_map, Function.comp_def, foldl_emit_eq]
  by_cases hfe : (c.externs.filter (fun a => !hd c a && ex c a == 0)).isEmpty = true
  · simp only [hfe, ↓reduceIte, List.append_nil]
  · simp only [hfe, Bool.false_eq_true, ↓reduceIte, List.append_assoc, CS.emit]

theorem flushExternal_specT (c : CS) (he : c.ext = true) (hm : ∀ a ∈ c.externs, (c.find a).isSome = true) :
    c.flushExternal = { c with out := c.out ++ extCallsT c } := by
  rw [flushExternal_eq, extFold c c.externs hm c [] rfl rfl]
  simp [he, extEmit, extFree, extCallsT, ← List.map_eq_flatMap, foldl_emit_eq]

/-- what the externals flush does to the state: it appends calls, none of them an output directive or a minimize statement, and nothing else -/
def FlushShape (c1 : CS) : Prop := ∃ rs, c1.flushExternal = { c1 with out := c1.out ++ rs } ∧ outsOf rs = [] ∧ minsOf rs = []

theorem flushShape_all (c1 : CS) (hm : ∀ a ∈ c1.externs, a ∈ domOf c1) : FlushShape c1 := by
  have hf : ∀ a ∈ c1.externs, (c1.find a).isSome = true := fun a ha => dom_find c1 a (hm a ha)
  have key : ∀ rs : List Call, (∀ x ∈ rs, outOf x = none ∧ minOf x = none) → outsOf rs = [] ∧ minsOf rs = [] := fun rs h =>
    ⟨List.filterMap_eq_nil_iff.mpr fun x hx => (h x hx).1, List.filterMap_eq_nil_iff.mpr fun x hx => (h x hx).2⟩
  cases he : c1.ext
  · refine ⟨extCallsOut c1, flushExternal_spec c1 he hf, key _ fun x hx => ?_⟩
    obtain ⟨_, _, rfl⟩ := mem_extShapeCalls hx; exact ⟨rfl, rfl⟩
  · refine ⟨extCallsT c1, flushExternal_specT c1 he hf, key _ fun x hx => ?_⟩
    obtain ⟨a, _, rfl⟩ := List.mem_map.mp hx; exact ⟨rfl, rfl⟩

/-! ### the minimize flush -/
/-- one round of `flushMinimize` -/
def minStep (c : CS) (pl : Int × List (Int × Int)) : CS := (c.mapWLits pl.2 []).1.emit (.minimize pl.1 (c.mapWLits pl.2 []).2)

theorem flushMinimize_eq (c : CS) : c.flushMinimize = c.minimize.foldl minStep c := rfl

theorem minStep_steps (c : CS) (pl : Int × List (Int × Int)) : Steps (abs c) (abs (minStep c pl)) := mapWLits_steps c pl.2 []

/-- `rest` without its first component: everything but the atom table and the emitted calls -/
theorem flushMinimize_keeps (c : CS) : (rest c.flushMinimize).2 = (rest c).2 :=
  foldl_frame (fun c => (rest c).2) minStep (fun c pl => congrArg (·.2) (rest_mapWLits c pl.2 [])) c.minimize c

theorem flushMinimize_ext (c : CS) : c.flushMinimize.ext = c.ext := congrArg (·.2.1) (flushMinimize_keeps c)
theorem flushMinimize_heur (c : CS) : c.flushMinimize.heur = c.heur := congrArg (·.2.2.2.2.1) (flushMinimize_keeps c)
theorem flushMinimize_output (c : CS) : c.flushMinimize.output = c.output := congrArg (·.2.2.2.2.2.2.1) (flushMinimize_keeps c)

theorem flushMinimize_view (c : CS) {α : Type} (f : Call → Option α) (hf : ∀ p ls, f (.minimize p ls) = none) :
    c.flushMinimize.out.filterMap f = c.out.filterMap f := by
  refine foldl_frame (fun c => c.out.filterMap f) minStep (fun c pl => ?_) c.minimize c
  show ((c.mapWLits pl.2 []).1.out ++ [_]).filterMap f = _
  rw [List.filterMap_append, rest_out (rest_mapWLits c pl.2 []), List.filterMap_cons, hf]; exact List.append_nil _

theorem keepsX_flushMinimize (c : CS) : KeepsX c c.flushMinimize :=
  KeepsX.foldl minStep (fun c pl => (keepsX_mapWLits c pl.2 []).trans (.of_eq rfl rfl)) _ c

theorem flushMinimize_dom (c : CS) (hm : ∀ a ∈ c.externs, a ∈ domOf c) : ∀ a ∈ c.flushMinimize.externs, a ∈ domOf c.flushMinimize :=
  fun a ha => dom_mono (flushMinimize_steps c) a (hm a ((keepsX_flushMinimize c).externs ▸ ha))

theorem flushShape_flushMinimize (c : CS) (hm : ∀ a ∈ c.externs, a ∈ domOf c) : FlushShape c.flushMinimize :=
  flushShape_all _ (flushMinimize_dom c hm)

/-! ### the translation invariant through the end of a step -/
theorem TS.directs (m : Nat → Nat) (rs : List Rule) : TS m [] rs (rs.map (renRule m)) := by
  induction rs with
  | nil => exact TS.nil m
  | cons r t ih => exact (TS.direct m r).append ih

theorem J.appendRules {c : CS} {P defs} (hj : J c P defs) (rs : List Rule) (xs : List Call)
    (hr : ∀ m, Agree c m → rulesOf xs = rs.map (renRule m))
    (hin : ∀ r ∈ rs, (∀ a ∈ r.head, a ∈ domOf c) ∧ (∀ a ∈ r.body.atoms, a ∈ domOf c) ∧ r.body.Ok) :
    J { c with out := c.out ++ xs } (P ++ rs) defs := by
  have := hj.extend (c' := { c with out := c.out ++ xs }) (.refl _) rfl [] rs (List.append_nil _).symm (List.forall_mem_nil _) hin
    (fun m ha => ⟨_, rulesOf_append _ _, hr m ha ▸ TS.directs m rs⟩)
  rwa [List.append_nil] at this

/-- the rules the pending externals stand for (input atoms) -/
def extP (c : CS) : List Rule := extShape (pendOf c 1) (pendOf c 0)

theorem extP_nil (c : CS) (h : c.externs = []) : extP c = [] := by
  unfold extP pendOf; rw [h]; rfl

theorem extP_keepsX {c c' : CS} (k : KeepsX c c') : extP c' = extP c := by
  have e : ∀ v, pendOf c' v = pendOf c v := fun v => by
    unfold pendOf; rw [k.externs]; exact List.filter_congr fun a _ => by rw [k.hd, k.ex]
  unfold extP; rw [e, e]

theorem find_ids (c : CS) (a : Nat) (x : CAtom) (h : c.find a = some x) : (a, x.smId) ∈ (abs c).ids :=
  img_mem c a x.smId (by rw [img, h]; rfl)

theorem sm_agree (c : CS) (m : Nat → Nat) (ha : Agree c m) (a : Nat) (hd : a ∈ domOf c) : sm c a = m a := by
  obtain ⟨x, hx⟩ := Option.isSome_iff_exists.mp (dom_find c a hd)
  have e : sm c a = x.smId := by unfold sm; rw [hx]
  exact e.trans (ha _ (find_ids c a x hx)).symm

theorem J.flushExt {c : CS} {P defs} (hj : J c P defs) (he : c.ext = false) (hm : ∀ a ∈ c.externs, a ∈ domOf c) :
    J c.flushExternal (P ++ extP c) defs := by
  rw [flushExternal_spec c he (fun a ha => dom_find c a (hm a ha))]
  have hdom : ∀ v, ∀ a ∈ pendOf c v, a ∈ domOf c := fun v a ha => hm a (List.mem_filter.mp ha).1
  refine hj.appendRules (extP c) (extCallsOut c) (fun m ha => ?_) fun r hr => ?_
  · have e : ∀ v, (pendOf c v).map (sm c) = (pendOf c v).map m := fun v => List.map_congr_left fun a h => sm_agree c m ha a (hdom v a h)
    unfold extCallsOut extP
    rw [rulesOf_extShapeCalls, extShape_ren, e, e]
  · obtain ⟨hb, hh⟩ := mem_extShape hr
    exact ⟨fun a h => (hh a h).elim (hdom 1 a) (hdom 0 a), by rw [hb]; exact List.forall_mem_nil _, by rw [hb]; exact List.forall_mem_nil _⟩

theorem J.heuStep {c : CS} {P defs} (hj : J c P defs) (h : Convert.Heu) : J (heuStep c h) P defs := by
  rcases heuStep_cases c h with e | ⟨_, _, e⟩ | ⟨n, nm, _, _, e⟩ <;> rw [e]
  · exact hj
  · exact hj.emit _ rfl
  · exact J.emit (hj.of' (c' := (c.updAtom h.atom fun x => { x with shown := true }).addOutput n nm true)
      (by rw [abs_addOutput, abs_updAtom c h.atom (·.head) (fun _ => true) (·.extn)]; exact .refl _) rfl rfl rfl) _ rfl

/-- the record update is spelt out in the statement: left to unification in `J.flush_of`, the same `of'` is slow to check -/
theorem J.clear {s : CS} {P defs} (hj : J s P defs) (m e h o) :
    J { s with minimize := m, externs := e, heur := h, output := o } P defs := hj.of' (.refl _) rfl rfl rfl

theorem J.flushMinimize {c : CS} {P defs} (hj : J c P defs) : J c.flushMinimize P defs :=
  J.foldl _ (fun c pl hc => (hc.of_rest (mapWLits_steps c pl.2 []) (by simp)).emit _ rfl) _ _ hj

theorem J.flush_of {c : CS} {P defs} (hj : J c.flushMinimize.flushExternal P defs) : J c.flush P defs := by
  rw [flush_eq]
  have h3 : J c.flushMinimize.flushExternal.flushHeuristic P defs := J.foldl _ (fun c h hc => hc.heuStep h) _ _ hj
  have h4 : J c.flushMinimize.flushExternal.flushHeuristic.flushSymbols P defs := J.foldl _ (fun c p hc => hc.emit _ rfl) _ _ h3
  exact (h4.emit _ rfl).clear ..

theorem rulesOf_extCallsT (c : CS) : rulesOf (extCallsT c) = [] :=
  List.filterMap_eq_nil_iff.mpr fun x hx => by obtain ⟨a, _, rfl⟩ := List.mem_map.mp hx; rfl

/-- without the extension the rules the pending externals stand for join the input side; with it the externals are passed on -/
theorem J.flush {c : CS} {P defs} (hj : J c P defs) (hm : ∀ a ∈ c.externs, a ∈ domOf c) :
    J c.flush (P ++ if c.ext then [] else extP c) defs := by
  have hm1 := flushMinimize_dom c hm
  apply J.flush_of
  cases he : c.ext
  · rw [if_neg Bool.false_ne_true, ← extP_keepsX (keepsX_flushMinimize c)]
    exact hj.flushMinimize.flushExt ((flushMinimize_ext c).trans he) hm1
  · rw [if_pos rfl, List.append_nil, flushExternal_specT _ ((flushMinimize_ext c).trans he) fun a ha => dom_find _ a (hm1 a ha)]
    exact hj.flushMinimize.of' (.refl _) rfl rfl (by rw [rulesOf_append, rulesOf_extCallsT, List.append_nil])

/-! ### from the invariant to the abstract translation -/
def finalMap (c : CS) : Nat → Nat := fun a => (img c a).getD 0

theorem agree_final (c : CS) (hi : Inv (abs c)) : Agree c (finalMap c) := by
  intro p hp
  have := mem_img c hi.keys p.1 p.2 hp
  simp [finalMap, this]

def ctxOf (c : CS) (defs : List (Nat × Body)) : Ctx := ⟨domOf c, finalMap c, defs⟩

theorem dom_pair (c : CS) (hi : Inv (abs c)) (a : Nat) (ha : a ∈ domOf c) : (a, finalMap c a) ∈ (abs c).ids := by
  simp only [domOf, List.mem_map] at ha
  obtain ⟨p, hp, rfl⟩ := ha
  rw [agree_final c hi p hp]; exact hp

theorem ctx_ok {c : CS} {P defs} (hj : J c P defs) : (ctxOf c defs).Ok := by
  have hi := hj.inv
  have haux : ∀ d ∈ defs, d.1 ∈ (abs c).aux := fun d hd => by
    show d.1 ∈ c.aux
    rw [← hj.keys]; exact List.mem_map_of_mem (f := (·.1)) hd
  refine ⟨?_, ?_, ?_, ?_, ?_, ?_, ?_⟩
  · intro a ha b hb e
    have h1 := dom_pair c hi a ha
    have h2 := dom_pair c hi b hb
    simp only [ctxOf] at e
    rw [e] at h1
    exact snd_inj _ hi.imgs a b _ h1 h2
  · intro a ha
    exact (hi.rng.1 _ (List.mem_map_of_mem (f := (·.2)) (dom_pair c hi a ha))).1
  · intro a ha d hd e
    have h1 := List.mem_map_of_mem (f := (·.2)) (dom_pair c hi a ha)
    simp only [ctxOf] at e
    rw [← e] at h1
    exact hi.disj _ h1 (haux d hd)
  · intro d hd
    exact (hi.rng.2 _ (haux d hd)).1
  · intro d hd d' hd' e
    have hn : (defs.map (·.1)).Nodup := by rw [hj.keys]; exact hi.auxs
    rw [inj_of_nodup_map hn hd hd' e]
  · intro d hd; exact (hj.defsOk d hd).2
  · intro d hd; exact (hj.defsOk d hd).1

theorem ctx_trans {c : CS} {P defs} (hj : J c P defs) : Trans (ctxOf c defs) P (rulesOf c.out) := by
  have h := hj.tr (finalMap c) (agree_final c hj.inv)
  exact ⟨hj.inOk, h.s1, h.s2, h.s3⟩

/-! ### the emitted calls of a step that ends without pending heuristics -/
theorem flushHeuristic_none (c : CS) (h : c.heur = []) : c.flushHeuristic = c := by
  rw [flushHeuristic_eq, h]; rfl

/-- the end of a step after the minimize flush `X`, when the externals give the calls `rs` and no heuristic directive is pending -/
def closeStep (X : CS) (rs : List Call) : CS :=
  ({ (({ X with out := X.out ++ rs } : CS).flushSymbols.emit (.assume [-1])) with minimize := [], externs := [], heur := [], output := [] } : CS).emit .endStep

theorem closeStep_abs (X : CS) (rs : List Call) : abs (closeStep X rs) = abs X :=
  have h : ∀ Y : CS, abs (({ (Y.emit (.assume [-1])) with minimize := [], externs := [], heur := [], output := [] } : CS).emit .endStep) = abs Y := fun _ => rfl
  (h _).trans (abs_flushSymbols _)

theorem closeStep_out (X : CS) (rs : List Call) :
    (closeStep X rs).out = X.out ++ rs ++ (sortSyms X.output).map (fun p => Call.output p.2 [(p.1 : Int)]) ++ [.assume [-1], .endStep] := by
  show (({ X with out := X.out ++ rs } : CS).flushSymbols.out ++ [.assume [-1]]) ++ [.endStep] = _
  rw [flushSymbols_eq, List.append_assoc _ [_] [_]]; rfl

theorem endStep_shape (c : CS) (hf : c.fail = false) (hfs : FlushShape c.flushMinimize) (hh : c.heur = []) :
    ∃ rs, outsOf rs = [] ∧ minsOf rs = [] ∧ c.apply .endStep = closeStep c.flushMinimize rs := by
  obtain ⟨rs, e, o1, o2⟩ := hfs
  refine ⟨rs, o1, o2, ?_⟩
  rw [apply_end c hf, flush_eq, e, flushHeuristic_none _ (by exact (flushMinimize_heur c).trans hh)]
  rfl

theorem outsOf_outputs (l : List (Nat × List Nat)) : outsOf (l.map fun p => Call.output p.2 [(p.1 : Int)]) = l.map fun p => (p.2, [(p.1 : Int)]) := by
  induction l with
  | nil => rfl
  | cons p r ih => exact congrArg ((p.2, [(p.1 : Int)]) :: ·) ih

theorem minsOf_outputs (l : List (Nat × List Nat)) : minsOf (l.map fun p => Call.output p.2 [(p.1 : Int)]) = [] :=
  List.filterMap_eq_nil_iff.mpr fun x hx => by obtain ⟨p, _, rfl⟩ := List.mem_map.mp hx; rfl

theorem final_outs (c : CS) (hf : c.fail = false) (hfs : FlushShape c.flushMinimize) (hh : c.heur = []) :
    outsOf (c.apply .endStep).out = outsOf c.out ++ (sortSyms c.output).map (fun p => (p.2, [(p.1 : Int)])) := by
  obtain ⟨rs, o1, _, e⟩ := endStep_shape c hf hfs hh
  rw [e, closeStep_out, outsOf_append, outsOf_append, outsOf_append, o1, outsOf_outputs, flushMinimize_output,
    show outsOf c.flushMinimize.out = outsOf c.out from flushMinimize_view c outOf fun _ _ => rfl, List.append_nil]
  exact List.append_nil _

/-- what has been shown so far (state between two steps): nothing pending, and the emitted output directives are those given -/
structure KO (c : CS) (Oall : List (List Nat × List Int)) (defs : List (Nat × Body)) : Prop where
  pend : c.output = []
  noheu : c.heur = []
  fwd : ∀ o ∈ Oall, ∃ n : Nat, (o.1, [(n : Int)]) ∈ outsOf c.out ∧ Rep c defs n o.2
  bwd : ∀ p ∈ outsOf c.out, ∃ (n : Nat) (cond : List Int), p.2 = [(n : Int)] ∧ (p.1, cond) ∈ Oall ∧ Rep c defs n cond

theorem K.endStep {c0 c : CS} {O defs defs0 Oall} (hko : KO c0 Oall defs0) (hf : c.fail = false) (hk : K c O defs (outsOf c0.out) (Rep c0 defs0))
    (hh : c.heur = []) (hfs : FlushShape c.flushMinimize) : KO (c.apply .endStep) (Oall ++ O) defs := by
  have houts := final_outs c hf hfs hh
  rw [hk.noout] at houts
  have mono : ∀ {n cond}, Rep c defs n cond → Rep (c.apply .endStep) defs n cond := fun h => h.mono (apply_steps c _) fun d hd => hd
  refine ⟨by rw [apply_end _ hf]; rfl, by rw [apply_end _ hf]; rfl, fun o ho => ?_, fun p hp => ?_⟩
  · rw [houts]
    rcases List.mem_append.mp ho with h | h
    · obtain ⟨n, hm, hr⟩ := hko.fwd o h
      exact ⟨n, List.mem_append_left _ hm, mono (hk.keep n o.2 hr)⟩
    · obtain ⟨n, hm, hr⟩ := hk.fwd o h
      exact ⟨n, List.mem_append_right _ (List.mem_map.mpr ⟨(n, o.1), (sortSyms_perm _).mem_iff.mpr hm, rfl⟩), mono hr⟩
  · rw [houts] at hp
    rcases List.mem_append.mp hp with h | h
    · obtain ⟨n, cond, e, hm, hr⟩ := hko.bwd p h
      exact ⟨n, cond, e, List.mem_append_left _ hm, mono (hk.keep n cond hr)⟩
    · obtain ⟨q, hq, rfl⟩ := List.mem_map.mp h
      obtain ⟨cond, hm, hr⟩ := hk.bwd q ((sortSyms_perm _).mem_iff.mp hq)
      exact ⟨q.1, cond, rfl, List.mem_append_right _ hm, mono hr⟩

/-! ### minimize statements: the pending table and what `endStep` emits -/
/-- the pending minimize table against the minimize statements `Ms` given in this step; `base` = the statements earlier steps emitted (`[]` in a single step) -/
structure M (c : CS) (Ms : List (Int × List (Int × Int))) (base : List (Int × List (Int × Int)) := []) : Prop where
  cost  : ∀ X p, costM X c.minimize p = costM X (Ms.map (fun q => (q.1, q.2.map flipNeg))) p
  nz    : ∀ pl ∈ c.minimize, ∀ q ∈ pl.2, q.1 ≠ 0
  nomin : minsOf c.out = base

theorem M.step {c : CS} {Ms base} (hM : M c Ms base) (hf : c.fail = false) (x : Call) (hx : PlainOk x) : M (c.apply x) (Ms ++ minsOf [x]) base := by
  have fr := apply_frame c hf x hx
  have hout : minsOf (c.apply x).out = base := (fr.view minOf fun _ => quiet_minOf).trans hM.nomin
  cases hm : minOf x with
  | none =>
    have e : minsOf [x] = [] := by rw [minsOf, List.filterMap_cons, hm]; rfl
    rw [e, List.append_nil]
    exact ⟨fun X p => by rw [fr.minimize hm]; exact hM.cost X p, by rw [fr.minimize hm]; exact hM.nz, hout⟩
  | some pl =>
    obtain ⟨prio, lits, rfl⟩ := minOf_inv hm
    have e : minsOf [Call.minimize prio lits] = [(prio, lits)] := rfl
    rw [apply_minimize_eq c hf prio lits fun p hp => (hx p hp).2] at hout ⊢
    refine ⟨fun X p => ?_, ?_, hout⟩
    · show costM X (insertMin c.minimize prio (lits.map flipNeg)) p = _
      rw [costM_insertMin, hM.cost X p, e, List.map_append, costM_append]
      simp only [List.map_cons, List.map_nil, costM_single]
    · refine insertMin_nz _ _ _ hM.nz fun q hq => ?_
      obtain ⟨q0, hq0, rfl⟩ := List.mem_map.mp hq
      exact flipNeg_ne q0 (hx q0 hq0).1

def renW (m : Nat → Nat) (ls : List (Int × Int)) : List (Int × Int) := ls.map (fun q => (renLit m q.1, q.2))

theorem minFold_mins (ms : List (Int × List (Int × Int))) (c : CS) (m : Nat → Nat) (ha : Agree (ms.foldl minStep c) m) :
    minsOf (ms.foldl minStep c).out = minsOf c.out ++ ms.map (fun pl => (pl.1, renW m pl.2)) := by
  induction ms generalizing c with
  | nil => exact (List.append_nil _).symm
  | cons pl r ih =>
    have ha1 : Agree (c.mapWLits pl.2 []).1 m := agree_back (foldl_steps (π := id) minStep minStep_steps r (minStep c pl)) ha
    have e : minsOf (minStep c pl).out = minsOf c.out ++ [(pl.1, renW m pl.2)] := by
      show minsOf ((c.mapWLits pl.2 []).1.out ++ [_]) = _
      rw [minsOf_append, rest_out (rest_mapWLits c pl.2 []), mapWLits_val c pl.2 [] m ha1]
      rfl
    rw [List.foldl_cons, ih _ ha, e, List.map_cons, List.append_assoc]
    rfl

theorem minFold_dom (ms : List (Int × List (Int × Int))) (c : CS) :
    ∀ pl ∈ ms, ∀ q ∈ pl.2, q.1.natAbs ∈ domOf (ms.foldl minStep c) := by
  induction ms generalizing c with
  | nil => exact List.forall_mem_nil _
  | cons pl r ih =>
    refine List.forall_mem_cons.mpr ⟨fun q hq => ?_, ih _⟩
    exact dom_mono (foldl_steps (π := id) minStep minStep_steps r _) _ (mapWLits_dom c pl.2 [] q hq)

theorem final_mins (c : CS) (hf : c.fail = false) (hfs : FlushShape c.flushMinimize) (hh : c.heur = [])
    (m : Nat → Nat) (ha : Agree (c.apply .endStep) m) :
    minsOf (c.apply .endStep).out = minsOf c.out ++ c.minimize.map (fun pl => (pl.1, renW m pl.2)) := by
  obtain ⟨rs, _, o2, e⟩ := endStep_shape c hf hfs hh
  have ha' : Agree c.flushMinimize m := by unfold Agree; rw [← closeStep_abs _ rs, ← e]; exact ha
  rw [e, closeStep_out, minsOf_append, minsOf_append, minsOf_append, o2, minsOf_outputs, flushMinimize_eq,
    minFold_mins c.minimize c m ha', List.append_nil, List.append_nil]
  exact List.append_nil _

theorem final_mins_dom (c : CS) (hf : c.fail = false) (hfs : FlushShape c.flushMinimize) (hh : c.heur = []) :
    ∀ pl ∈ c.minimize, ∀ q ∈ pl.2, q.1.natAbs ∈ domOf (c.apply .endStep) := by
  obtain ⟨rs, _, _, e⟩ := endStep_shape c hf hfs hh
  unfold domOf
  rw [e, closeStep_abs]
  exact minFold_dom c.minimize c

/-- the minimize statements emitted so far (state between two steps): a table `TT` over the GIVEN atoms whose image under any atom map that agrees with the
    state is what has been emitted, which costs what the given statements (negative weights moved to the complementary literals) cost -/
structure MO (c : CS) (Msrc : List (Int × List (Int × Int))) : Prop where
  pend : c.minimize = []
  tab : ∃ TT : List (Int × List (Int × Int)),
      (∀ m, Agree c m → minsOf c.out = TT.map (fun pl => (pl.1, renW m pl.2))) ∧
      (∀ X p, costM X TT p = costM X (Msrc.map (fun q => (q.1, q.2.map flipNeg))) p) ∧
      (∀ pl ∈ TT, ∀ q ∈ pl.2, q.1 ≠ 0 ∧ q.1.natAbs ∈ domOf c)

theorem M.endStep {c0 c : CS} {Ms Msrc} (hmo : MO c0 Msrc) (hs : Steps (abs c0) (abs c)) (hf : c.fail = false)
    (hM : M c Ms (minsOf c0.out)) (hh : c.heur = []) (hfs : FlushShape c.flushMinimize) : MO (c.apply .endStep) (Msrc ++ Ms) := by
  obtain ⟨TT, t1, t2, t3⟩ := hmo.tab
  have he := apply_steps c .endStep
  refine ⟨by rw [apply_end _ hf]; rfl, TT ++ c.minimize, fun m ha => ?_, fun X p => ?_, fun pl hpl q hq => ?_⟩
  · rw [final_mins c hf hfs hh m ha, hM.nomin, t1 m (agree_back (hs.trans he) ha), List.map_append]
  · rw [costM_append, t2 X p, hM.cost X p, List.map_append, costM_append]
  · rcases List.mem_append.mp hpl with h | h
    · exact ⟨(t3 pl h q hq).1, dom_mono (hs.trans he) _ (t3 pl h q hq).2⟩
    · exact ⟨hM.nz pl h q hq, final_mins_dom c hf hfs hh pl h q hq⟩

end PotasscoVerif.C02
