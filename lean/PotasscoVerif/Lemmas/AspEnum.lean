/-
  The executable enumerator of Spec/Asp.lean decides the declarative definition:
  `stableB P xs = true ↔ Stable P (ofList xs)`, and every stable model that lies inside a list of atoms is found.
-/
import PotasscoVerif.Lemmas.AspBasic
namespace PotasscoVerif.Asp

theorem modelRb_iff (P : List Rule) (X Y : I) : modelRb P X Y = true ↔ ModelR P X Y := by
  simp [modelRb, ModelR, List.all_eq_true]

theorem mem_sublists_sub (xs ys : List Nat) (h : ys ∈ sublists xs) : ∀ a ∈ ys, a ∈ xs := by
  induction xs generalizing ys with
  | nil => simp only [sublists, List.mem_singleton] at h; subst h; intro a ha; cases ha
  | cons x r ih =>
    simp only [sublists, List.mem_append, List.mem_map] at h
    rcases h with h | ⟨zs, hz, rfl⟩
    · intro a ha; exact List.mem_cons_of_mem _ (ih ys h a ha)
    · intro a ha
      rcases List.mem_cons.mp ha with e | e
      · exact e ▸ List.mem_cons_self
      · exact List.mem_cons_of_mem _ (ih zs hz a e)

theorem filter_mem_sublists (xs : List Nat) (p : Nat → Bool) : xs.filter p ∈ sublists xs := by
  induction xs with
  | nil => simp [sublists]
  | cons x r ih =>
    simp only [sublists, List.mem_append, List.mem_map, List.filter_cons]
    cases hp : p x
    · left; simpa using ih
    · right; exact ⟨r.filter p, ih, by simp⟩

theorem ofList_filter (xs : List Nat) (Y : I) (h : Sub Y (ofList xs)) : Y = ofList (xs.filter Y) := by
  funext a
  apply Bool.eq_iff_iff.mpr
  unfold ofList
  rw [List.contains_iff_mem, List.mem_filter]
  exact ⟨fun hy => ⟨List.contains_iff_mem.mp (h a hy), hy⟩, fun h => h.2⟩

theorem sub_ofList (xs ys : List Nat) : Sub (ofList xs) (ofList ys) ↔ xs.all (fun a => ys.contains a) = true := by
  simp only [List.all_eq_true, Sub, ofList, List.contains_iff_mem]

/-- **the enumerator's test is the definition** -/
theorem stableB_iff (P : List Rule) (xs : List Nat) : stableB P xs = true ↔ Stable P (ofList xs) := by
  unfold stableB Stable
  rw [Bool.and_eq_true, modelRb_iff, List.all_eq_true]
  refine and_congr_right fun _ => ⟨fun h2 Y hsub hm => ?_, fun h2 ys hys => ?_⟩
  · -- `Y` is the sub-list of `xs` that it selects
    have hy := ofList_filter xs Y hsub
    have := h2 _ (filter_mem_sublists xs Y)
    rw [← hy, (modelRb_iff P _ Y).mpr hm] at this
    rw [hy]; exact (sub_ofList _ _).mpr this
  · cases hm : modelRb P (ofList xs) (ofList ys)
    · rfl
    · have hs : Sub (ofList ys) (ofList xs) := fun a ha =>
        List.contains_iff_mem.mpr (mem_sublists_sub xs ys hys a (List.contains_iff_mem.mp ha))
      exact (sub_ofList xs ys).mp (h2 _ hs ((modelRb_iff _ _ _).mp hm))

/-- **completeness of the enumeration**: a stable model all of whose atoms are in `atoms` is listed (as a function) -/
theorem stableModels_complete (P : List Rule) (atoms : List Nat) (X : I) (hs : Stable P X) (hin : ∀ a, X a = true → a ∈ atoms) :
    ∃ xs ∈ stableModels P atoms, X = ofList xs := by
  have hx := ofList_filter atoms X fun a ha => List.contains_iff_mem.mpr (hin a ha)
  refine ⟨atoms.filter X, ?_, hx⟩
  unfold stableModels
  rw [List.mem_filter]
  refine ⟨filter_mem_sublists atoms X, ?_⟩
  rw [stableB_iff, ← hx]; exact hs

/-- **soundness of the enumeration** -/
theorem stableModels_sound (P : List Rule) (atoms : List Nat) (xs : List Nat) (h : xs ∈ stableModels P atoms) : Stable P (ofList xs) := by
  unfold stableModels at h
  exact (stableB_iff P xs).mp (List.mem_filter.mp h).2

end PotasscoVerif.Asp
