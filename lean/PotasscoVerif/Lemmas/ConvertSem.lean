/-
  The converter model (Model/Convert.lean) performs the abstract transformation of Lemmas/AspTrans.lean: through the calls of a
  step (`PlainOk`) the rules it emits are a translation (`Asp.Trans`) of the rules it was given, under its own atom map, with one
  defining rule per auxiliary atom (`J`); the pending symbol table names the atoms that stand for the conditions (`K`).
-/
import PotasscoVerif.Props.C02
import PotasscoVerif.Lemmas.AspTrans
import PotasscoVerif.Spec.AspCalls
namespace PotasscoVerif.C02
open PotasscoVerif PotasscoVerif.Convert PotasscoVerif.Asp

def domOf (c : CS) : List Nat := (abs c).ids.map (·.1)

def Agree (c : CS) (m : Nat → Nat) : Prop := ∀ p ∈ (abs c).ids, m p.1 = p.2

theorem steps_inv' {c c' : CS} (h : Steps (abs c) (abs c')) (hi : Inv (abs c)) : Inv (abs c') := h.inv hi

theorem agree_back {c c' : CS} (h : Steps (abs c) (abs c')) {m : Nat → Nat} (ha : Agree c' m) : Agree c m :=
  fun p hp => ha p (h.mono.1 p hp)

theorem dom_mono {c c' : CS} (h : Steps (abs c) (abs c')) : ∀ a ∈ domOf c, a ∈ domOf c' := by
  intro a ha
  obtain ⟨p, hp, rfl⟩ := List.mem_map.mp ha
  exact List.mem_map.mpr ⟨p, h.mono.1 p hp, rfl⟩

theorem mapAtom_mem (c : CS) (a : Nat) : (a, (c.mapAtom a).2.smId) ∈ (abs (c.mapAtom a).1).ids := by
  unfold CS.mapAtom
  cases h : c.find a with
  | some x => exact img_mem c a x.smId (by unfold img; rw [h]; rfl)
  | none => exact List.mem_map.mpr ⟨(a, { smId := c.next }), List.mem_append_right _ (List.mem_singleton_self _), rfl⟩

theorem mapAtom_dom (c : CS) (a : Nat) : a ∈ domOf (c.mapAtom a).1 := List.mem_map.mpr ⟨_, mapAtom_mem c a, rfl⟩

theorem mapAtom_val (c : CS) (a : Nat) {c' : CS} (hs : Steps (abs (c.mapAtom a).1) (abs c')) {m : Nat → Nat}
    (ha : Agree c' m) : (c.mapAtom a).2.smId = m a :=
  (agree_back hs ha _ (mapAtom_mem c a)).symm

theorem mapLits_val (c : CS) (ls acc : List Int) (m : Nat → Nat) (ha : Agree (c.mapLits ls acc).1 m) :
    (c.mapLits ls acc).2 = acc ++ ls.map (renLit m) := by
  induction ls generalizing c acc with
  | nil => exact (List.append_nil acc).symm
  | cons l r ih =>
    rw [CS.mapLits] at ha ⊢
    rw [ih _ _ ha, List.map_cons, List.append_assoc, List.singleton_append]
    simp only [CS.mapLit, renLit, mapAtom_val c _ (mapLits_steps _ r _) ha]

theorem mapWLits_val (c : CS) (ls acc : List (Int × Int)) (m : Nat → Nat) (ha : Agree (c.mapWLits ls acc).1 m) :
    (c.mapWLits ls acc).2 = acc ++ ls.map (fun p => (renLit m p.1, p.2)) := by
  induction ls generalizing c acc with
  | nil => exact (List.append_nil acc).symm
  | cons l r ih =>
    rw [CS.mapWLits] at ha ⊢
    rw [ih _ _ ha, List.map_cons, List.append_assoc, List.singleton_append]
    simp only [CS.mapLit, renLit, mapAtom_val c _ (mapWLits_steps _ r _) ha]

theorem mapHeadAtoms_val (c : CS) (h acc : List Nat) (m : Nat → Nat) (ha : Agree (c.mapHeadAtoms h acc).1 m) :
    (c.mapHeadAtoms h acc).2 = acc ++ h.map m := by
  induction h generalizing c acc with
  | nil => exact (List.append_nil acc).symm
  | cons a r ih =>
    rw [CS.mapHeadAtoms] at ha ⊢
    have e := abs_updAtom (c.mapAtom a).1 a (fun _ => true) (·.shown) (·.extn)
    rw [ih _ _ ha, List.map_cons, List.append_assoc, List.singleton_append, mapAtom_val c a (e ▸ mapHeadAtoms_steps _ r _) ha]

theorem mapHead_val (c : CS) (h : List Nat) (m : Nat → Nat) (ha : Agree (c.mapHead h).1 m) :
    (c.mapHead h).2 = renHead m h := by
  show (if (c.mapHeadAtoms h []).2.isEmpty then [1] else (c.mapHeadAtoms h []).2) = _
  rw [mapHeadAtoms_val c h [] m ha]
  cases h <;> rfl

theorem mapLits_dom (c : CS) (ls acc : List Int) : ∀ a ∈ (Body.normal ls).atoms, a ∈ domOf (c.mapLits ls acc).1 := by
  induction ls generalizing c acc with
  | nil => exact (List.forall_mem_nil _)
  | cons x r ih =>
    intro a ha
    rcases List.mem_cons.mp ha with rfl | h
    · exact dom_mono (mapLits_steps _ r _) _ (mapAtom_dom c _)
    · exact ih _ _ a h

theorem mapWLits_dom (c : CS) (ls acc : List (Int × Int)) : ∀ p ∈ ls, p.1.natAbs ∈ domOf (c.mapWLits ls acc).1 :=
  fun _ hp => mapWLits_fst c ls acc [] ▸ mapLits_dom c _ [] _ (List.mem_map_of_mem (List.mem_map_of_mem hp))

theorem mapHeadAtoms_dom (c : CS) (h acc : List Nat) : ∀ a ∈ h, a ∈ domOf (c.mapHeadAtoms h acc).1 := by
  induction h generalizing c acc with
  | nil => exact (List.forall_mem_nil _)
  | cons x r ih =>
    have e := abs_updAtom (c.mapAtom x).1 x (fun _ => true) (·.shown) (·.extn)
    intro a ha
    rcases List.mem_cons.mp ha with rfl | h
    · refine dom_mono (mapHeadAtoms_steps _ r _) _ ?_
      unfold domOf; rw [e]; exact mapAtom_dom c _
    · exact ih _ _ a h

theorem mapHead_dom (c : CS) (h : List Nat) : ∀ a ∈ h, a ∈ domOf (c.mapHead h).1 :=
  mapHeadAtoms_dom c h []

theorem rulesOf_append (a b : List Call) : rulesOf (a ++ b) = rulesOf a ++ rulesOf b := List.filterMap_append

theorem rulesOf_emit (c : CS) (x : Call) : rulesOf (c.emit x).out = rulesOf c.out ++ (inRule x).toList := by
  rw [CS.emit, rulesOf_append]
  cases h : inRule x <;> simp only [rulesOf, List.filterMap_cons, h, List.filterMap_nil, Option.toList]

/-- `Asp.Trans` without its side conditions -/
structure TS (m : Nat → Nat) (defs : List (Nat × Body)) (P P' : List Rule) : Prop where
  s1 : ∀ r' ∈ P', (∃ r ∈ P, r' = renRule m r) ∨ (∃ d ∈ defs, r' = defRule m d) ∨
        (∃ r ∈ P, ∃ n, (n, r.body) ∈ defs ∧ r' = useRule m r n)
  s2 : ∀ r ∈ P, (r.choice = true ∧ r.head = []) ∨ renRule m r ∈ P' ∨ ∃ n, (n, r.body) ∈ defs ∧ useRule m r n ∈ P'
  s3 : ∀ d ∈ defs, defRule m d ∈ P'

theorem TS.nil (m : Nat → Nat) : TS m [] [] [] := ⟨(List.forall_mem_nil _), (List.forall_mem_nil _), (List.forall_mem_nil _)⟩

/-- translations of separate parts, with separate auxiliary atoms, put side by side -/
theorem TS.append {m d1 d2 P1 P2 Q1 Q2} (h1 : TS m d1 P1 Q1) (h2 : TS m d2 P2 Q2) : TS m (d1 ++ d2) (P1 ++ P2) (Q1 ++ Q2) := by
  refine ⟨fun r' hr' => ?_, fun r0 hr0 => ?_, fun d hd => ?_⟩
  · rcases List.mem_append.mp hr' with h | h
    · exact (h1.s1 r' h).imp (fun ⟨r, hr, e⟩ => ⟨r, List.mem_append_left _ hr, e⟩) (Or.imp (fun ⟨x, hx, e⟩ => ⟨x, List.mem_append_left _ hx, e⟩)
        fun ⟨r, hr, n, hn, e⟩ => ⟨r, List.mem_append_left _ hr, n, List.mem_append_left _ hn, e⟩)
    · exact (h2.s1 r' h).imp (fun ⟨r, hr, e⟩ => ⟨r, List.mem_append_right _ hr, e⟩) (Or.imp (fun ⟨x, hx, e⟩ => ⟨x, List.mem_append_right _ hx, e⟩)
        fun ⟨r, hr, n, hn, e⟩ => ⟨r, List.mem_append_right _ hr, n, List.mem_append_right _ hn, e⟩)
  · rcases List.mem_append.mp hr0 with h | h
    · exact (h1.s2 r0 h).imp_right (Or.imp (List.mem_append_left _) fun ⟨n, hn, h⟩ => ⟨n, List.mem_append_left _ hn, List.mem_append_left _ h⟩)
    · exact (h2.s2 r0 h).imp_right (Or.imp (List.mem_append_right _) fun ⟨n, hn, h⟩ => ⟨n, List.mem_append_right _ hn, List.mem_append_right _ h⟩)
  · exact (List.mem_append.mp hd).elim (fun h => List.mem_append_left _ (h1.s3 d h)) (fun h => List.mem_append_right _ (h2.s3 d h))

theorem TS.direct (m : Nat → Nat) (r : Rule) : TS m [] [r] [renRule m r] :=
  ⟨fun _ h => Or.inl ⟨r, List.mem_singleton_self r, List.mem_singleton.mp h⟩,
   fun _ h => Or.inr (Or.inl (List.mem_singleton.mp h ▸ List.mem_singleton_self _)), (List.forall_mem_nil _)⟩

theorem TS.drop (m : Nat → Nat) (r : Rule) (hc : r.choice = true) (hh : r.head = []) : TS m [] [r] [] :=
  ⟨(List.forall_mem_nil _), fun _ h => Or.inl (List.mem_singleton.mp h ▸ ⟨hc, hh⟩), (List.forall_mem_nil _)⟩

theorem TS.def_ (m : Nat → Nat) (d : Nat × Body) : TS m [d] [] [defRule m d] :=
  ⟨fun _ h => Or.inr (Or.inl ⟨d, List.mem_singleton_self d, List.mem_singleton.mp h⟩), (List.forall_mem_nil _),
   fun _ h => List.mem_singleton.mp h ▸ List.mem_singleton_self _⟩

theorem TS.split (m : Nat → Nat) (r : Rule) (n : Nat) : TS m [(n, r.body)] [r] [defRule m (n, r.body), useRule m r n] := by
  refine ⟨fun r' h => ?_, fun r0 h => ?_, fun d h => ?_⟩
  · rcases List.mem_cons.mp h with rfl | h
    · exact Or.inr (Or.inl ⟨_, List.mem_singleton_self _, rfl⟩)
    · exact Or.inr (Or.inr ⟨r, List.mem_singleton_self r, n, List.mem_singleton_self _, List.mem_singleton.mp h⟩)
  · obtain rfl := List.mem_singleton.mp h
    exact Or.inr (Or.inr ⟨n, List.mem_singleton_self _, List.mem_cons_of_mem _ (List.mem_singleton_self _)⟩)
  · obtain rfl := List.mem_singleton.mp h
    exact List.mem_cons_self

theorem TS.snoc_direct {m defs P P'} (h : TS m defs P P') (r : Rule) : TS m defs (P ++ [r]) (P' ++ [renRule m r]) := by
  simpa using h.append (TS.direct m r)

theorem TS.snoc_drop {m defs P P'} (h : TS m defs P P') (r : Rule) (hc : r.choice = true) (hh : r.head = []) : TS m defs (P ++ [r]) P' := by
  simpa using h.append (TS.drop m r hc hh)

/-- a choice rule over no atoms says nothing; the converter drops it -/
def kept (r : Rule) : Bool := !(r.choice && r.head.isEmpty)

theorem kept_iff (ht : Nat) (head : List Nat) (B : Body) : kept ⟨ht != 0, head, B⟩ = (!head.isEmpty || ht == 0) := by
  unfold kept bne; cases head.isEmpty <;> cases (ht == 0) <;> rfl

theorem filter_kept {x : Call} {ht : Nat} {head : List Nat} {B : Body} (h : inRule x = some ⟨ht != 0, head, B⟩) :
    (rulesOf [x]).filter kept = if (!head.isEmpty || ht == 0) = true then [⟨ht != 0, head, B⟩] else [] := by
  rw [rulesOf, List.filterMap_cons, h, List.filterMap_nil, List.filter_cons, List.filter_nil, kept_iff]

structure J (c : CS) (P : List Rule) (defs : List (Nat × Body)) : Prop where
  inv    : Inv (abs c)
  nofail : c.fail = false
  keys   : defs.map (·.1) = c.aux
  defsOk : ∀ d ∈ defs, d.2.Ok ∧ ∀ a ∈ d.2.atoms, a ∈ domOf c
  inOk   : ∀ r ∈ P, (∀ a ∈ r.head, a ∈ domOf c) ∧ (∀ a ∈ r.body.atoms, a ∈ domOf c) ∧ r.body.Ok
  tr     : ∀ m, Agree c m → TS m defs P (rulesOf c.out)

/-- the one way the invariant moves on: further atoms are mapped, `ds` are the new auxiliary atoms, `rs` the new input rules, and the
    rules newly emitted are a translation of `rs` with the definitions `ds` -/
theorem J.extend {c c' : CS} {P defs} (hj : J c P defs) (hs : Steps (abs c) (abs c')) (hf : c'.fail = c.fail)
    (ds : List (Nat × Body)) (rs : List Rule) (hx : c'.aux = c.aux ++ ds.map (·.1))
    (hd : ∀ d ∈ ds, d.2.Ok ∧ ∀ a ∈ d.2.atoms, a ∈ domOf c')
    (hr : ∀ r ∈ rs, (∀ a ∈ r.head, a ∈ domOf c') ∧ (∀ a ∈ r.body.atoms, a ∈ domOf c') ∧ r.body.Ok)
    (ht : ∀ m, Agree c' m → ∃ Q, rulesOf c'.out = rulesOf c.out ++ Q ∧ TS m ds rs Q) : J c' (P ++ rs) (defs ++ ds) := by
  have mono := dom_mono hs
  refine ⟨steps_inv' hs hj.inv, hf ▸ hj.nofail, by rw [List.map_append, hj.keys, hx], fun d hd' => ?_, fun r hr' => ?_, fun m ha => ?_⟩
  · rcases List.mem_append.mp hd' with h | h
    · exact ⟨(hj.defsOk d h).1, fun a ha => mono a ((hj.defsOk d h).2 a ha)⟩
    · exact hd d h
  · rcases List.mem_append.mp hr' with h | h
    · obtain ⟨h1, h2, h3⟩ := hj.inOk r h
      exact ⟨fun a ha => mono a (h1 a ha), fun a ha => mono a (h2 a ha), h3⟩
    · exact hr r h
  · obtain ⟨Q, e, hQ⟩ := ht m ha
    rw [e]; exact (hj.tr m (agree_back hs ha)).append hQ

theorem J.of' {c c' : CS} {P defs} (hj : J c P defs) (hs : Steps (abs c) (abs c')) (hf : c'.fail = c.fail)
    (hx : c'.aux = c.aux) (ho : rulesOf c'.out = rulesOf c.out) : J c' P defs := by
  have := hj.extend hs hf [] [] (by rw [hx]; exact (List.append_nil _).symm) (List.forall_mem_nil _) (List.forall_mem_nil _)
    (fun m _ => ⟨[], by rw [ho, List.append_nil], TS.nil m⟩)
  rwa [List.append_nil, List.append_nil] at this

theorem J.congr {c c' : CS} {P defs} (hj : J c P defs) (ha : abs c' = abs c) (hf : c'.fail = c.fail) (hx : c'.aux = c.aux)
    (ho : c'.out = c.out) : J c' P defs :=
  hj.of' (ha ▸ .refl _) hf hx (congrArg rulesOf ho)

theorem J.of_rest {c c' : CS} {P defs} (hj : J c P defs) (hs : Steps (abs c) (abs c')) (hr : rest c' = rest c) : J c' P defs :=
  hj.of' hs (rest_fail hr) (rest_aux hr) (by rw [rest_out hr])

theorem J.emit {c : CS} {P defs} (hj : J c P defs) (x : Call) (hx : inRule x = none) : J (c.emit x) P defs :=
  hj.of' (.refl _) rfl rfl (by rw [rulesOf_emit, hx]; exact List.append_nil _)

theorem J.through {c : CS} {P defs} (hj : J c P defs) (x : Call) (hx : inRule x = none) : J (pass c x) P defs := by
  unfold pass; split
  · exact hj.emit x hx
  · exact hj

theorem J.foldl {β : Type} {P defs} (f : CS → β → CS) (hf : ∀ c x, J c P defs → J (f c x) P defs) (l : List β) (c : CS) (hj : J c P defs) :
    J (l.foldl f c) P defs :=
  foldl_inv _ f hf l c hj

/-- from a state `c2` reached by mapping atoms only, a call `x` is emitted that every agreeing map reads as `r` renamed -/
theorem J.emitRule {c c2 : CS} {P defs} (hj : J c P defs) (hs : Steps (abs c) (abs c2)) (hre : rest c2 = rest c) (r : Rule) (x : Call)
    (hin : (∀ a ∈ r.head, a ∈ domOf c2) ∧ (∀ a ∈ r.body.atoms, a ∈ domOf c2) ∧ r.body.Ok)
    (hr : ∀ m, Agree c2 m → inRule x = some (renRule m r)) : J (c2.emit x) (P ++ [r]) defs := by
  have hfl := rest_fail hre
  have hax := rest_aux hre
  have hou := rest_out hre
  have := hj.extend (c' := c2.emit x) hs hfl [] [r] (hax.trans (List.append_nil _).symm) (List.forall_mem_nil _)
    (List.forall_mem_singleton.mpr hin)
    fun m ha => ⟨[renRule m r], by rw [rulesOf_emit, hou, hr m ha]; rfl, TS.direct m r⟩
  rwa [List.append_nil] at this

theorem abs_newAux (c : CS) : abs { c with next := c.next + 1, aux := c.aux ++ [c.next] }
    = { abs c with next := (abs c).next + 1, aux := (abs c).aux ++ [(abs c).next] } := rfl

/-- the same through a new auxiliary atom: `x` is the rule that defines it by the body of `r`, `y` the rule with the head of `r` -/
theorem J.emitSplit {c c2 : CS} {P defs} (hj : J c P defs) (hs : Steps (abs c) (abs c2)) (hre : rest c2 = rest c) (r : Rule) (x y : Call)
    (hin : (∀ a ∈ r.head, a ∈ domOf c2) ∧ (∀ a ∈ r.body.atoms, a ∈ domOf c2) ∧ r.body.Ok)
    (hr : ∀ m, Agree c2 m → inRule x = some (defRule m (c2.next, r.body)) ∧ inRule y = some (useRule m r c2.next)) :
    J (((splitState c2).emit x).emit y) (P ++ [r]) (defs ++ [(c2.next, r.body)]) := by
  have hs3 := newAux_steps c2
  have mono : ∀ a ∈ domOf c2, a ∈ domOf (((splitState c2).emit x).emit y) := dom_mono hs3
  have hfl := rest_fail hre
  have hax := rest_aux hre
  have hou := rest_out hre
  refine hj.extend (c' := ((splitState c2).emit x).emit y) (hs.trans hs3) hfl [(c2.next, r.body)] [r]
    (congrArg (· ++ [c2.next]) hax)
    (List.forall_mem_singleton.mpr ⟨hin.2.2, fun a ha => mono a (hin.2.1 a ha)⟩)
    (List.forall_mem_singleton.mpr ⟨fun a ha => mono a (hin.1 a ha), fun a ha => mono a (hin.2.1 a ha), hin.2.2⟩)
    fun m ha => ⟨[defRule m (c2.next, r.body), useRule m r c2.next], ?_, TS.split m r c2.next⟩
  obtain ⟨e1, e2⟩ := hr m (agree_back hs3 ha)
  rw [rulesOf_emit, rulesOf_emit, e1, e2, List.append_assoc, show (splitState c2).out = c.out from hou]
  rfl

theorem apply_rule {c : CS} {P defs} (hj : J c P defs) (ht : Nat) (head : List Nat) (body : List Int) (hb : ∀ l ∈ body, l ≠ 0) :
    J (c.apply (.rule ht head body)) (P ++ (rulesOf [.rule ht head body]).filter kept) defs := by
  rw [apply_rule_eq c hj.nofail, filter_kept (x := .rule ht head body) rfl]
  by_cases hk : (!head.isEmpty || ht == 0) = true
  · rw [if_pos hk, if_pos hk]
    have hs2 := mapLits_steps (c.mapHead head).1 body []
    refine hj.emitRule ((mapHead_steps c head).trans hs2) (by simp) ⟨ht != 0, head, .normal body⟩ _
      ⟨fun a ha => dom_mono hs2 a (mapHead_dom c head a ha), mapLits_dom _ body [], hb⟩ fun m ha => ?_
    rw [inRule, mapHead_val c head m (agree_back hs2 ha), mapLits_val _ body [] m ha]; rfl
  · rw [if_neg hk, if_neg hk, List.append_nil]; exact hj

theorem apply_sumRule {c : CS} {P defs} (hj : J c P defs) (ht : Nat) (head : List Nat) (bound : Int) (body : List (Int × Int))
    (hb : ∀ p ∈ body, p.1 ≠ 0 ∧ 0 ≤ p.2) :
    ∃ defs', J (c.apply (.sumRule ht head bound body)) (P ++ (rulesOf [.sumRule ht head bound body]).filter kept) defs' ∧ (∀ d ∈ defs, d ∈ defs') := by
  rw [apply_sum_eq c hj.nofail, filter_kept (x := .sumRule ht head bound body) rfl]
  by_cases hk : (!head.isEmpty || ht == 0) = true
  · rw [if_pos hk, if_pos hk]
    have hs1 := mapHead_steps c head
    have hs2 := mapWLits_steps (c.mapHead head).1 body []
    have hre : rest ((c.mapHead head).1.mapWLits body []).1 = rest c := by simp
    have hin : (∀ a ∈ head, a ∈ domOf ((c.mapHead head).1.mapWLits body []).1) ∧
        (∀ a ∈ (Body.sum bound body).atoms, a ∈ domOf ((c.mapHead head).1.mapWLits body []).1) ∧ (Body.sum bound body).Ok :=
      ⟨fun a ha => dom_mono hs2 a (mapHead_dom c head a ha), fun a ha => by
        obtain ⟨l, hl, rfl⟩ := List.mem_map.mp ha
        exact mapWLits_dom _ body [] l hl, hb⟩
    have hval : ∀ m, Agree ((c.mapHead head).1.mapWLits body []).1 m → (c.mapHead head).2 = renHead m head ∧
        ((c.mapHead head).1.mapWLits body []).2 = body.map (fun p => (renLit m p.1, p.2)) := fun m ha =>
      ⟨mapHead_val c head m (agree_back hs2 ha), (mapWLits_val _ body [] m ha).trans (List.nil_append _)⟩
    generalize ((c.mapHead head).1.mapWLits body []).1 = c2 at hs2 hre hin hval
    split
    · exact ⟨defs, hj.emitRule (hs1.trans hs2) hre ⟨ht != 0, head, .sum bound body⟩ _ hin fun m ha => by
        rw [inRule, (hval m ha).1, (hval m ha).2]; rfl, fun d hd => hd⟩
    · exact ⟨_, hj.emitSplit (hs1.trans hs2) hre ⟨ht != 0, head, .sum bound body⟩ _ _ hin fun m ha => by
        rw [inRule, inRule, (hval m ha).1, (hval m ha).2]; exact ⟨rfl, rfl⟩, fun d hd => List.mem_append_left _ hd⟩
  · rw [if_neg hk, if_neg hk, List.append_nil]; exact ⟨defs, hj, fun d hd => hd⟩

theorem J.auxAtom {c : CS} {P defs} (hj : J c P defs) (cond : List Int) (hb : ∀ l ∈ cond, l ≠ 0) :
    J (c.auxAtom cond).1 P (defs ++ [(c.next, .normal cond)]) := by
  have hs1 := newAux_steps c
  have e1 : (splitState c).fail = c.fail ∧ (splitState c).aux = c.aux ++ [c.next] ∧ (splitState c).out = c.out := ⟨rfl, rfl, rfl⟩
  show J (((splitState c).mapLits cond []).1.emit (.rule 0 [c.next] ((splitState c).mapLits cond []).2)) P _
  generalize splitState c = c1 at hs1 e1
  have hs2 := mapLits_steps c1 cond []
  have hre := rest_mapLits c1 cond []
  have := hj.extend (c' := (c1.mapLits cond []).1.emit (.rule 0 [c.next] (c1.mapLits cond []).2)) (hs1.trans hs2)
    ((rest_fail hre).trans e1.1) [(c.next, .normal cond)] [] ((rest_aux hre).trans e1.2.1)
    (List.forall_mem_singleton.mpr ⟨hb, mapLits_dom c1 cond []⟩) (List.forall_mem_nil _)
    fun m ha => ⟨[defRule m (c.next, .normal cond)], by
      rw [rulesOf_emit, rest_out hre, e1.2.2, inRule, mapLits_val c1 cond [] m ha]; rfl, TS.def_ m _⟩
  rwa [List.append_nil] at this

/-- the atom `n` stands for the condition `cond`: it is the image of the single positive literal, or an auxiliary
    atom defined by the condition -/
def Rep (c : CS) (defs : List (Nat × Body)) (n : Nat) (cond : List Int) : Prop :=
  (∃ a : Nat, cond = [(a : Int)] ∧ 0 < a ∧ (a, n) ∈ (abs c).ids) ∨ (n, Body.normal cond) ∈ defs

theorem Rep.mono {c c' : CS} {defs defs' : List (Nat × Body)} {n : Nat} {cond : List Int} (h : Rep c defs n cond)
    (hs : Steps (abs c) (abs c')) (hd : ∀ d ∈ defs, d ∈ defs') : Rep c' defs' n cond := by
  rcases h with ⟨a, h1, h2, h3⟩ | h
  · exact Or.inl ⟨a, h1, h2, hs.mono.1 _ h3⟩
  · exact Or.inr (hd _ h)

theorem auxAtom_snd (c : CS) (cond : List Int) : (c.auxAtom cond).2 = c.next := rfl

theorem J.makeAtom {c : CS} {P defs} (hj : J c P defs) (cond : List Int) (named : Bool) (hb : ∀ l ∈ cond, l ≠ 0) :
    ∃ defs', J (c.makeAtom cond named).1 P defs' ∧ (∀ d ∈ defs, d ∈ defs') ∧ Rep (c.makeAtom cond named).1 defs' (c.makeAtom cond named).2 cond := by
  have haux : ∀ {c0 : CS}, J c0 P defs → ∃ defs', J (c0.auxAtom cond).1 P defs' ∧ (∀ d ∈ defs, d ∈ defs') ∧ Rep (c0.auxAtom cond).1 defs' (c0.auxAtom cond).2 cond :=
    fun h => ⟨_, h.auxAtom cond hb, fun d hd => List.mem_append_left _ hd, Or.inr (List.mem_append_right _ (List.mem_singleton_self _))⟩
  unfold CS.makeAtom
  by_cases hc : (cond.length == 1 && 0 ≤ cond.headD 0) = true
  · rw [if_pos hc]
    dsimp only
    have hJ1 : J (c.mapAtom (cond.headD 0).natAbs).1 P defs := hj.of_rest (mapAtom_steps c _) (rest_mapAtom c _)
    have hmem := mapAtom_mem c (cond.headD 0).natAbs
    generalize (c.mapAtom (cond.headD 0).natAbs).1 = m1 at hJ1 hmem
    split
    · exact haux hJ1
    · have e := abs_updAtom m1 (cond.headD 0).natAbs (·.head) (fun _ => named) (·.extn)
      refine ⟨defs, hJ1.congr e rfl rfl rfl, fun d hd => hd, Or.inl ?_⟩
      -- `cond` is one positive literal
      rw [Bool.and_eq_true, beq_iff_eq, decide_eq_true_eq] at hc
      obtain ⟨l, rfl⟩ := List.length_eq_one_iff.mp hc.1
      exact ⟨l.natAbs, congrArg (· :: []) (Int.natAbs_of_nonneg hc.2).symm, Int.natAbs_pos.mpr (hb l (List.mem_singleton_self l)), e ▸ hmem⟩
  · rw [if_neg hc]; exact haux hj

def outOf : Call → Option (List Nat × List Int)
  | .output n c => some (n, c)
  | _ => none
def outsOf (cs : List Call) : List (List Nat × List Int) := cs.filterMap outOf
/-- what a SOURCE call asks to be shown when its condition holds: the name of an output directive; for an acyclicity edge the helper name
    `_edge(s,t)` the converter shows it under -/
def srcOut : Call → Option (List Nat × List Int)
  | .output n c => some (n, c)
  | .acycEdge a b c => some (edgeName a b, c)
  | _ => none
def srcOuts (cs : List Call) : List (List Nat × List Int) := cs.filterMap srcOut
theorem srcOuts_append (a b : List Call) : srcOuts (a ++ b) = srcOuts a ++ srcOuts b := List.filterMap_append
theorem outsOf_append (a b : List Call) : outsOf (a ++ b) = outsOf a ++ outsOf b := List.filterMap_append

theorem quiet_outOf {y : Call} (h : quiet y = true) : outOf y = none := by cases y <;> first | rfl | cases h

/-- the pending output table against the output directives `O` given in this step; `base` = what earlier steps have emitted
    (`[]` in a single step; Lemmas/ConvertStepsOut.lean uses it for several steps) -/
structure K (c : CS) (O : List (List Nat × List Int)) (defs : List (Nat × Body)) (base : List (List Nat × List Int) := [])
    (E : Nat → List Int → Prop := fun _ _ => False) : Prop where
  fwd : ∀ o ∈ O, ∃ n, (n, o.1) ∈ c.output ∧ Rep c defs n o.2
  bwd : ∀ p ∈ c.output, ∃ cond, (p.2, cond) ∈ O ∧ Rep c defs p.1 cond
  noout : outsOf c.out = base
  /-- atoms that stand for conditions since EARLIER steps keep doing so (`E n cond`: a relation fixed at the start of the step; empty in a single step) -/
  keep : ∀ n cond, E n cond → Rep c defs n cond

theorem K.of {c c' : CS} {O defs defs' base E} (hk : K c O defs base E) (hs : Steps (abs c) (abs c')) (ho : c'.output = c.output)
    (hout : outsOf c'.out = outsOf c.out) (hd : ∀ d ∈ defs, d ∈ defs') : K c' O defs' base E := by
  refine ⟨?_, ?_, hout.trans hk.noout, fun n cond h => (hk.keep n cond h).mono hs hd⟩
  · intro o ho'
    obtain ⟨n, h1, h2⟩ := hk.fwd o ho'
    exact ⟨n, ho ▸ h1, h2.mono hs hd⟩
  · intro p hp
    obtain ⟨cond, h1, h2⟩ := hk.bwd p (ho ▸ hp)
    exact ⟨cond, h1, h2.mono hs hd⟩

theorem K.maps {c c' : CS} {O defs defs' base E} (hk : K c O defs base E) (h : Maps c c') (hd : ∀ d ∈ defs, d ∈ defs') :
    K c' O defs' base E :=
  hk.of h.steps h.output (h.view outOf fun _ => quiet_outOf) hd

theorem K.emit {c : CS} {O defs base E} (hk : K c O defs base E) (x : Call) (hx : outOf x = none) : K (c.emit x) O defs base E :=
  hk.of (.refl _) rfl (by simp [CS.emit, outsOf, hx]) (fun d hd => hd)

theorem K.through {c : CS} {O defs base E} (hk : K c O defs base E) (hi : Inv (abs c)) (x : Call) (hx : outOf x = none) : K (pass c x) O defs base E := by
  unfold pass; split
  · exact hk.emit x hx
  · exact hk

theorem K.addOutput {c : CS} {O defs base E} (hk : K c O defs base E) (n : Nat) (str : List Nat) (cond : List Int) (hash : Bool)
    (hrep : Rep (c.addOutput n str hash) defs n cond) : K (c.addOutput n str hash) (O ++ [(str, cond)]) defs base E := by
  refine ⟨fun o ho => ?_, fun p hp => ?_, hk.noout, hk.keep⟩
  · rcases List.mem_append.mp ho with h | h
    · obtain ⟨n', h1, h2⟩ := hk.fwd o h
      exact ⟨n', List.mem_append_left _ h1, h2⟩
    · obtain rfl := List.mem_singleton.mp h
      exact ⟨n, List.mem_append_right _ (List.mem_singleton_self _), hrep⟩
  · rcases List.mem_append.mp hp with h | h
    · obtain ⟨cd, h1, h2⟩ := hk.bwd p h
      exact ⟨cd, List.mem_append_left _ h1, h2⟩
    · obtain rfl := List.mem_singleton.mp h
      exact ⟨cond, List.mem_append_right _ (List.mem_singleton_self _), hrep⟩

/-- the calls of a step this file covers, with the interface contract on their arguments -/
def PlainOk : Call → Prop
  | .rule _ _ b => ∀ l ∈ b, l ≠ 0
  | .sumRule _ _ _ b => ∀ p ∈ b, p.1 ≠ 0 ∧ 0 ≤ p.2
  | .minimize _ ls => ∀ p ∈ ls, p.1 ≠ 0 ∧ p.2 ≠ I32MINc
  | .output _ cond => ∀ l ∈ cond, l ≠ 0
  | .external _ _ => True
  | .acycEdge _ _ cond => ∀ l ∈ cond, l ≠ 0
  | .heuristic _ _ _ _ cond => ∀ l ∈ cond, l ≠ 0
  | _ => False

/-- the atom a call makes for its condition, with the condition -/
def condAtom (c : CS) : Call → Option (Nat × List Int)
  | .output _ cond => some ((c.makeAtom cond true).2, cond)
  | .acycEdge a b cond => some (((pass c (.acycEdge a b cond)).makeAtom cond true).2, cond)
  | .heuristic a t b p cond => some (((pass c (.heuristic a t b p cond)).makeAtom cond true).2, cond)
  | _ => none

theorem apply_J {c : CS} {P defs} (hj : J c P defs) (x : Call) (hx : PlainOk x) :
    ∃ defs', J (c.apply x) (P ++ (rulesOf [x]).filter kept) defs' ∧ (∀ d ∈ defs, d ∈ defs') ∧
      ∀ p, condAtom c x = some p → Rep (c.apply x) defs' p.1 p.2 := by
  have hf := hj.nofail
  have norule : ∀ {y : Call}, inRule y = none → P ++ (rulesOf [y]).filter kept = P := fun h => by
    simp [rulesOf, h]
  -- a condition: `makeAtom`, then an entry `w` in one of the pending tables (about a variable state: `rfl` across `makeAtom` is dear)
  have cond_like : ∀ {c0 : CS} (w : CS → CS) (cond : List Int), J c0 P defs → (∀ l ∈ cond, l ≠ 0) →
      (∀ s : CS, abs (w s) = abs s ∧ (w s).fail = s.fail ∧ (w s).aux = s.aux ∧ (w s).out = s.out) →
      ∃ defs', J (w (c0.makeAtom cond true).1) P defs' ∧ (∀ d ∈ defs, d ∈ defs') ∧
        ∀ p, some ((c0.makeAtom cond true).2, cond) = some p → Rep (w (c0.makeAtom cond true).1) defs' p.1 p.2 := by
    intro c0 w cond h0 hc hw
    obtain ⟨defs', hJ, hsub, hrep⟩ := h0.makeAtom cond true hc
    obtain ⟨ha, hf', hx', ho⟩ := hw (c0.makeAtom cond true).1
    exact ⟨defs', hJ.congr ha hf' hx' ho, hsub, fun p hp => Option.some.inj hp ▸ hrep.mono (ha ▸ .refl _) fun d hd => hd⟩
  cases x with
  | rule ht head body => exact ⟨defs, apply_rule hj ht head body hx, fun d hd => hd, fun _ h => nomatch h⟩
  | sumRule ht head bound body =>
    obtain ⟨defs', h1, h2⟩ := apply_sumRule hj ht head bound body hx
    exact ⟨defs', h1, h2, fun _ h => nomatch h⟩
  | minimize prio lits =>
    rw [norule rfl, apply_minimize_eq c hf prio lits fun p hp => (hx p hp).2]
    exact ⟨defs, hj.congr rfl rfl rfl rfl, fun d hd => hd, fun _ h => nomatch h⟩
  | external a v =>
    have hJ1 := hj.of_rest (mapAtom_steps c a) (rest_mapAtom c a)
    rw [norule rfl, apply_external_eq c hf]
    generalize (c.mapAtom a).1 = m at hJ1
    refine ⟨defs, ?_, fun d hd => hd, fun _ h => nomatch h⟩
    split
    · exact hJ1.congr (abs_updAtom m a (·.head) (·.shown) fun _ => v) rfl rfl rfl
    · exact hJ1
  | output str cond =>
    rw [norule rfl, apply_output_eq c hf]
    exact cond_like (fun s => s.addOutput _ str true) cond hj hx fun _ => ⟨rfl, rfl, rfl, rfl⟩
  | acycEdge a b cond =>
    rw [norule rfl, apply_edge_eq c hf]
    exact cond_like (fun s => s.addOutput _ (edgeName a b) false) cond (hj.through _ rfl) hx fun _ => ⟨rfl, rfl, rfl, rfl⟩
  | heuristic a t b p cond =>
    rw [norule rfl, apply_heu_eq c hf]
    exact cond_like (fun s => { s with heur := _ }) cond (hj.through _ rfl) hx fun _ => ⟨rfl, rfl, rfl, rfl⟩
  | _ => exact False.elim hx

theorem apply_K {c : CS} {O defs defs' base E} (hk : K c O defs base E) (hf : c.fail = false) (x : Call) (hx : PlainOk x)
    (hd : ∀ d ∈ defs, d ∈ defs') (hrep : ∀ p, condAtom c x = some p → Rep (c.apply x) defs' p.1 p.2) :
    K (c.apply x) (O ++ srcOuts [x]) defs' base E := by
  have nosrc : ∀ {y : Call}, srcOut y = none → O ++ srcOuts [y] = O := fun h => by simp [srcOuts, h]
  cases x with
  | rule ht head body => rw [nosrc rfl]; exact hk.maps (maps_rule c hf ht head body) hd
  | sumRule ht head bound body => rw [nosrc rfl]; exact hk.maps (maps_sum c hf ht head bound body) hd
  | minimize prio lits =>
    rw [nosrc rfl, apply_minimize_eq c hf prio lits fun p hp => (hx p hp).2]
    exact hk.of (.refl _) rfl rfl hd
  | external a v => rw [nosrc rfl]; exact hk.maps (maps_external c hf a v) hd
  | heuristic a t b p cond =>
    have hm := (maps_pass c (.heuristic a t b p cond) rfl).trans (maps_makeAtom _ cond true)
    rw [nosrc rfl, apply_heu_eq c hf]
    generalize ((pass c (.heuristic a t b p cond)).makeAtom cond true).1 = m at hm
    exact (hk.maps hm hd).of (.refl _) rfl rfl fun d hd => hd
  | output str cond =>
    have hr := hrep _ rfl
    rw [apply_output_eq c hf] at hr ⊢
    exact (hk.maps (maps_makeAtom c cond true) hd).addOutput _ str cond true hr
  | acycEdge a b cond =>
    have hm := (maps_pass c (.acycEdge a b cond) rfl).trans (maps_makeAtom _ cond true)
    have hr := hrep _ rfl
    rw [apply_edge_eq c hf] at hr ⊢
    exact (hk.maps hm hd).addOutput _ (edgeName a b) cond false hr
  | _ => exact False.elim hx

theorem apply_plain {c : CS} {P O defs base E} (hj : J c P defs) (hk : K c O defs base E) (x : Call) (hx : PlainOk x) :
    ∃ defs', J (c.apply x) (P ++ (rulesOf [x]).filter kept) defs' ∧ K (c.apply x) (O ++ srcOuts [x]) defs' base E := by
  obtain ⟨defs', h1, h2, h3⟩ := apply_J hj x hx
  exact ⟨defs', h1, apply_K hk hj.nofail x hx h2 h3⟩

/-- induction over the calls of a step, the calls met so far kept in a second argument -/
theorem run_ind {Q : CS → List Call → Prop} (hstep : ∀ c src d, PlainOk d → Q c src → Q (c.apply d) (src ++ [d]))
    (ds : List Call) (hx : ∀ d ∈ ds, PlainOk d) {c : CS} {src : List Call} (h : Q c src) : Q (ds.foldl CS.apply c) (src ++ ds) := by
  induction ds generalizing c src with
  | nil => rwa [List.append_nil]
  | cons d r ih =>
    have := ih (fun e he => hx e (List.mem_cons_of_mem _ he)) (hstep c src d (hx d List.mem_cons_self) h)
    rwa [List.append_assoc] at this

theorem run_plain {c : CS} {P O defs base E} (hj : J c P defs) (hk : K c O defs base E) (ds : List Call) (hx : ∀ d ∈ ds, PlainOk d) :
    ∃ defs', J (ds.foldl CS.apply c) (P ++ (rulesOf ds).filter kept) defs' ∧ K (ds.foldl CS.apply c) (O ++ srcOuts ds) defs' base E := by
  have := run_ind (Q := fun c src => ∃ defs', J c (P ++ (rulesOf src).filter kept) defs' ∧ K c (O ++ srcOuts src) defs' base E)
    (fun c src d hd ⟨defs1, h1, k1⟩ => by
      obtain ⟨defs2, h2, k2⟩ := apply_plain h1 k1 d hd
      rw [List.append_assoc, ← List.filter_append, ← rulesOf_append] at h2
      rw [List.append_assoc, ← srcOuts_append] at k2
      exact ⟨defs2, h2, k2⟩)
    ds hx (c := c) (src := []) ⟨defs, (List.append_nil P).symm ▸ hj, (List.append_nil O).symm ▸ hk⟩
  rwa [List.nil_append] at this

instance : DecidablePred PlainOk := fun x => by cases x <;> unfold PlainOk <;> infer_instance

end PotasscoVerif.C02
