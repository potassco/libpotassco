/-
  The smodels round trip (C05), second part: writer and reader on whole programs, and the round trip `write_read`.
-/
import PotasscoVerif.Lemmas.SmodelsRoundTrip
namespace PotasscoVerif.SmRT
open PotasscoVerif PotasscoVerif.AspifOut PotasscoVerif.AspifIn PotasscoVerif.CharStream PotasscoVerif.Decimal
open PotasscoVerif.AspifRT PotasscoVerif.SmodelsOut PotasscoVerif.SmodelsIn
open PotasscoVerif.BufferedStream (isWs isDigit I64MAX)

theorem run_step (ext : Bool) (f : Nat) (s : Step) (h : StepOk ext f s) (w : W) :
    run ext f w s.calls = .ok { out := w.out ++ stepText ext w.inc f s, sec := 2, fHead := s.fHead, inc := w.inc } := by
  have hc : s.calls = .beginStep :: (s.rs ++ (s.outs ++ (asmCalls s.asm ++ [.endStep]))) := by simp [Step.calls]
  rw [hc, run, SmodelsOut.step]
  simp only
  rw [run_body ext f s h _ rfl rfl]
  cases hi : ext && w.inc <;> simp [stepText, stepTextK, W.put, str_nl.2.2.2.2, hi]

def progCalls (inc : Bool) (steps : List Step) : List Call := [.initProgram inc] ++ (steps.map Step.calls).flatten

theorem run_steps (ext : Bool) (f : Nat) : ∀ (steps : List Step) (w : W), (∀ s ∈ steps, StepOk ext f s) →
    ∃ w', run ext f w (steps.map Step.calls).flatten = .ok w' ∧ w'.out = w.out ++ (steps.map (stepText ext w.inc f)).flatten ∧ w'.inc = w.inc := by
  intro steps
  induction steps with
  | nil => intro w _; exact ⟨w, rfl, by simp, rfl⟩
  | cons s r ih =>
    intro w hok
    obtain ⟨hs, hok⟩ := List.forall_mem_cons.mp hok
    simp only [List.map_cons, List.flatten_cons]
    rw [run_append, run_step ext f s hs w]
    obtain ⟨w', e, ho, hi⟩ := ih { out := w.out ++ stepText ext w.inc f s, sec := 2, fHead := s.fHead, inc := w.inc } hok
    exact ⟨w', e, by rw [ho]; simp, hi⟩

theorem write_prog (ext inc : Bool) (f : Nat) (steps : List Step) (hok : ∀ s ∈ steps, StepOk ext f s) (hinc : inc = true → ext = true) :
    SmodelsOut.write ext f (progCalls inc steps) = ((steps.map (stepText ext inc f)).flatten, true) := by
  unfold SmodelsOut.write progCalls
  have hi : (inc && !ext) = false := by cases inc <;> cases ext <;> simp at hinc ⊢
  simp only [List.singleton_append, run, SmodelsOut.step, hi, Bool.false_eq_true, ↓reduceIte]
  obtain ⟨w', e, ho, _⟩ := run_steps ext f steps { inc := inc } hok
  rw [e]
  simp [ho]


theorem rulesText_head (ext : Bool) (f : Nat) : ∀ (rs : List Call) (k : List Nat), (∀ c ∈ rs, RuleOk ext f c) →
    ∃ d r, rulesText f rs ++ (str "0" ++ k) = d :: r ∧ isDigit d = true ∧ (d = 57 → ext = true) := by
  intro rs
  induction rs with
  | nil => intro k _; exact ⟨48, k, by simp [rulesText, str0], by decide, fun e => absurd e (by decide)⟩
  | cons c rs ih =>
    intro k hok
    obtain ⟨hc, hok⟩ := List.forall_mem_cons.mp hok
    rw [rulesText_cons, ruleText]
    by_cases h0 : ruleRT c = 0
    · rw [if_pos h0]
      exact ih k hok
    · obtain ⟨d, r, e1, hd⟩ := printNat_head_digit (ruleRT c)
      refine ⟨d, r ++ (ruleFields f c ++ nl ++ rulesText f rs ++ (str "0" ++ k)), by rw [if_neg h0, e1]; simp only [List.cons_append, List.append_assoc], hd, ?_⟩
      rintro rfl
      have h9 : ∀ n ∈ [0, 1, 2, 3, 5, 6, 8], (printNat n).head? ≠ some 57 := by decide +kernel
      rcases ruleRT_mem c with h | ⟨⟨a, v, rfl⟩, _⟩
      · exact absurd (congrArg List.head? e1) (h9 _ h)
      · exact hc.1

/-- a step's text starts with a digit: with `9` when it starts with the incremental marker, and otherwise only through an external rule -/
theorem stepText_head (ext inc : Bool) (f : Nat) (s : Step) (h : StepOk ext f s) (k : List Nat) :
    ∃ d r, stepTextK ext inc f s k = d :: r ∧ isDigit d = true ∧ (d = 57 → ext = true) ∧ ((ext && inc) = true → d = 57) := by
  unfold stepTextK
  cases hi : ext && inc
  · obtain ⟨d, r, e, hd, h57⟩ := rulesText_head ext f s.rs (nl ++ tailText f s k) h.rules
    exact ⟨d, r, by rw [← e]; simp, hd, h57, nofun⟩
  · have e : str "90 0" = [57, 48, 32, 48] := by decide +kernel
    simp only [↓reduceIte, e]
    exact ⟨57, _, rfl, by decide, fun _ => (Bool.and_eq_true _ _ ▸ hi).1, fun _ => rfl⟩

def canonCalls (f : Nat) (steps : List Step) : List Call := (steps.map (fun s => [.beginStep] ++ canonStep f s ++ [.endStep])).flatten

theorem stepTexts_cons (ext inc : Bool) (f : Nat) (s : Step) (rest : List Step) :
    ((s :: rest).map (stepText ext inc f)).flatten = stepTextK ext inc f s ((rest.map (stepText ext inc f)).flatten) := by
  simp [stepText_append]

theorem steps_length (ext inc : Bool) (f : Nat) (steps : List Step) : steps.length ≤ ((steps.map (stepText ext inc f)).flatten).length := by
  induction steps with
  | nil => simp
  | cons s r ih =>
    rw [stepTexts_cons]
    simp only [stepTextK, tailText, List.length_append, nl, List.length_cons, List.length_nil]; omega

/-- several steps only in incremental mode: `winc` is the writer's flag, `rinc` what the reader derived from the first character -/
theorem sm_stepsLoop_rt (ext winc rinc : Bool) (f : Nat) : ∀ (rest : List Step) (s : Step) (fuel : Nat) (a : AS) (acc : List Call),
    rest.length < fuel → (∀ st ∈ s :: rest, StepOk ext f st) → (winc = true → ext = true) → (rest ≠ [] → rinc = true) →
    a.rest = ((s :: rest).map (stepText ext winc f)).flatten →
    SmodelsIn.stepsLoop ext fuel rinc a acc = { calls := acc ++ canonCalls f (s :: rest), err := none } := by
  intro rest s fuel
  induction fuel generalizing rest s with
  | zero => intro a acc hf; omega
  | succ fuel ih =>
    intro a acc hf hok hw hri hr
    obtain ⟨hs, hok⟩ := List.forall_mem_cons.mp hok
    rw [C07.stepsLoop7_succ]
    cases rest with
    | nil =>
      obtain ⟨a1, e1, r1⟩ := step_rt ext winc f s hs hw a [] (by rw [hr]; simp)
      rw [e1]
      simp [(C03.more_spec r1 nl_ws nofun).1, canonCalls]
    | cons s2 rest =>
      obtain rfl : rinc = true := hri (List.cons_ne_nil _ _)
      rw [stepTexts_cons] at hr
      obtain ⟨a1, e1, r1⟩ := step_rt ext winc f s hs hw a _ (by rw [hr, stepText_append])
      obtain ⟨d, r, ed, hd, _, _⟩ := stepText_head ext winc f s2 (hok s2 List.mem_cons_self) ((rest.map (stepText ext winc f)).flatten)
      rw [← stepTexts_cons] at ed
      have ⟨hm, hrest⟩ := C03.more_spec r1 nl_ws (by intro c r' e; rw [ed] at e; cases e; exact (digit_props hd).1)
      rw [e1]
      simp only [hm, ed, List.headD_cons, bne_iff_ne.mpr (digit_props hd).2, Bool.not_true, Bool.and_false, Bool.false_eq_true, ↓reduceIte]
      rw [ih rest s2 a1.skipWs _ (Nat.lt_of_succ_lt_succ hf) hok hw (fun _ => rfl) hrest]
      simp [canonCalls]

/-- a program of the supported fragment as the writer is given it -/
structure ProgOk (ext inc : Bool) (f : Nat) (steps : List Step) : Prop where
  nonempty : steps ≠ []
  single   : inc = false → steps.length = 1
  incExt   : inc = true → ext = true
  steps    : ∀ s ∈ steps, StepOk ext f s

/-- The smodels round trip: every program of the fragment is written without refusal, and reading the text back delivers its
    canonical form (`canonCalls`) without error; the argument of `initProgram` is whatever the first character suggests (the format
    has no header). -/
theorem write_read (ext inc : Bool) (f : Nat) (steps : List Step) (h : ProgOk ext inc f steps) :
    (SmodelsOut.write ext f (progCalls inc steps)).2 = true ∧
    ∃ b, SmodelsIn.read ext (SmodelsOut.write ext f (progCalls inc steps)).1 = { calls := .initProgram b :: canonCalls f steps, err := none } := by
  rw [write_prog ext inc f steps h.steps h.incExt]
  refine ⟨rfl, ?_⟩
  obtain ⟨s, rest, rfl⟩ := List.exists_cons_of_ne_nil h.nonempty
  obtain ⟨d, r, ed, hd, h57, hmark⟩ := stepText_head ext inc f s (h.steps s List.mem_cons_self) ((rest.map (stepText ext inc f)).flatten)
  rw [← stepTexts_cons] at ed
  refine ⟨d == 57, ?_⟩
  unfold SmodelsIn.read
  have hp : (AS.init (((s :: rest).map (stepText ext inc f)).flatten)).peek = d := by
    unfold AS.peek AS.init; simp only; rw [ed]; rfl
  have hcond : (isDigit d && (!(d == 57) || ext)) = true := by
    rw [hd]
    by_cases h9 : d = 57
    · simp [h9, h57 h9]
    · simp [h9]
  have hmulti : rest ≠ [] → (d == 57) = true := by
    intro hne
    have hinc : inc = true := by
      cases hi : inc with
      | true => rfl
      | false => have := h.single hi; simp at this; exact absurd this hne
    simp [hmark (by simp [hinc, h.incExt hinc])]
  simp only [hp, hcond, ↓reduceIte]
  refine sm_stepsLoop_rt ext inc _ f rest s _ _ _ ?_ h.steps h.incExt hmulti rfl
  have := steps_length ext inc f (s :: rest)
  simp only [AS.init, List.length_cons] at this ⊢; omega

end PotasscoVerif.SmRT
