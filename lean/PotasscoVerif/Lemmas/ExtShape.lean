/-
  The rules external directives stand for when they are compiled away (Spec/AspCalls.lean `extRules`; `SmodelsConvert::flushExternal` without the
  clasp extension): a fact for every atom whose value is true, one choice rule over the atoms that are free.
-/
import PotasscoVerif.Lemmas.AspTrans
import PotasscoVerif.Spec.AspCalls
namespace PotasscoVerif.C02
open PotasscoVerif PotasscoVerif.Asp

def extShape (facts free : List Nat) : List Rule :=
  facts.map (fun a => ⟨false, [a], .normal []⟩) ++ (if free.isEmpty then [] else [⟨true, free, .normal []⟩])

/-- the same rules as calls of the interface -/
def extShapeCalls (facts free : List Nat) : List Call :=
  facts.map (fun a => .rule 0 [a] []) ++ (if free.isEmpty then [] else [.rule 1 free []])

theorem extRules_shape (cs : List Call) : extRules cs =
    extShape ((((extCalls cs).map (·.1)).filter fun a => !(headsOf cs).contains a).filter fun a => lastExt (extCalls cs) a == 1)
      ((((extCalls cs).map (·.1)).filter fun a => !(headsOf cs).contains a).filter fun a => lastExt (extCalls cs) a == 0) := rfl

theorem rulesOf_extShapeCalls (facts free : List Nat) : rulesOf (extShapeCalls facts free) = extShape facts free := by
  unfold rulesOf extShapeCalls extShape
  rw [List.filterMap_append, List.filterMap_map]
  congr 1
  · exact congrFun (List.filterMap_eq_map' (f := fun a => (⟨false, [a], .normal []⟩ : Rule))) facts
  · split <;> rfl

theorem mem_extShapeCalls {facts free : List Nat} {x : Call} (h : x ∈ extShapeCalls facts free) : ∃ ht head, x = .rule ht head [] := by
  rcases List.mem_append.mp h with h | h
  · obtain ⟨a, _, rfl⟩ := List.mem_map.mp h
    exact ⟨_, _, rfl⟩
  · split at h
    · cases h
    · exact ⟨_, _, List.mem_singleton.mp h⟩

theorem mem_extShape {facts free : List Nat} {r : Rule} (h : r ∈ extShape facts free) : r.body = .normal [] ∧ ∀ a ∈ r.head, a ∈ facts ∨ a ∈ free := by
  rcases List.mem_append.mp h with h | h
  · obtain ⟨a, ha, rfl⟩ := List.mem_map.mp h
    exact ⟨rfl, fun b hb => .inl (List.mem_singleton.mp hb ▸ ha)⟩
  · split at h
    · cases h
    · obtain rfl := List.mem_singleton.mp h
      exact ⟨rfl, fun _ => .inr⟩

theorem extShape_ren (m : Nat → Nat) (facts free : List Nat) : (extShape facts free).map (renRule m) = extShape (facts.map m) (free.map m) := by
  unfold extShape
  rw [List.map_append, List.map_map, List.map_map, List.isEmpty_map]
  congr 1
  cases free with
  | nil => rfl
  | cons a r => rfl

end PotasscoVerif.C02
