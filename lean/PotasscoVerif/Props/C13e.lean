/-
  C13 (continued) — command strings in mixed spellings.
  `C13_cmdstring` is about strings in which every token is quoted.  Here every token is written either quoted or, when it is plain — no NUL,
  blank (0x20) or quote character, no two backslashes in a row, not starting with white space — as it is.  A backslash is an escape only in front of
  a quote or another backslash, so a plain token may contain backslashes, also at its very end and at the very end of the string.
-/
import PotasscoVerif.Props.C13
namespace PotasscoVerif.C13
open PotasscoVerif.Options PotasscoVerif.OptIndex

/-- a character that may stand in an unquoted token -/
def okc (c : Nat) : Prop := c ≠ 0 ∧ c ≠ 32 ∧ c ≠ 34 ∧ c ≠ 39

def PlainTok : List Nat → Prop
  | [] => True
  | [c] => okc c
  | c :: n :: r => okc c ∧ (c = 92 → n ≠ 92) ∧ PlainTok (n :: r)

theorem PlainTok.tail {c : Nat} {r : List Nat} (h : PlainTok (c :: r)) : okc c ∧ PlainTok r := by
  cases r with
  | nil => exact ⟨h, trivial⟩
  | cons n r' => exact ⟨h.1, h.2.2⟩

theorem csToken_plain (t : List Nat) (f : Nat) (rest acc : List Nat) (hp : PlainTok t) (hrest : rest = [] ∨ ∃ r, rest = 32 :: r)
    (hf : t.length + 1 ≤ f) : csToken f (t ++ rest) 32 acc = (acc.reverse ++ t, rest) := by
  induction t generalizing f acc with
  | nil =>
    obtain ⟨g, rfl⟩ : ∃ g, f = g + 1 := ⟨f - 1, by omega⟩
    rw [List.nil_append, step_end _ _ _ hrest, List.append_nil]
  | cons c r ih =>
    obtain ⟨g, rfl⟩ : ∃ g, f = g + 1 := ⟨f - 1, by omega⟩
    obtain ⟨⟨_, h32, h34, h39⟩, hr⟩ := hp.tail
    have ih' := ih g (c :: acc) hr (by simp only [List.length_cons] at hf; omega)
    rw [List.reverse_cons, List.append_assoc, List.singleton_append] at ih'
    rw [List.cons_append, ← ih']
    by_cases h92 : c = 92
    · -- a backslash: what follows is a plain character of the token, or the blank / the end behind it
      subst h92
      refine step_backslash _ _ 32 _ (by decide) fun n r' e => ?_
      cases r with
      | nil =>
        obtain rfl | ⟨_, rfl⟩ := hrest
        · cases e
        · cases e; decide
      | cons m r'' =>
        cases e
        exact ⟨hr.tail.1.2.2.1, hr.tail.1.2.2.2, hp.2.1 rfl⟩
    · exact step_char _ c _ 32 _ h32 (fun _ => ⟨h39, h34⟩) h92

/-- a token with the way it is written: quoted, or as it is -/
structure Spell where
  quoted : Bool
  tok    : List Nat

def Spell.text (s : Spell) : List Nat := if s.quoted then quoteTok s.tok else s.tok
def Spell.ok (s : Spell) : Prop :=
  (∀ c ∈ s.tok, c ≠ 0) ∧ (s.quoted = false → PlainTok s.tok ∧ ∃ c r, s.tok = c :: r ∧ isCSpace c = false)

def spJoin : List Spell → List Nat
  | [] => []
  | [s] => s.text
  | s :: ss => s.text ++ 32 :: spJoin ss

theorem reads_spell (s : Spell) (h : s.ok) : Reads s.text s.tok := by
  unfold Spell.text
  cases hq : s.quoted with
  | true => exact reads_quoted s.tok
  | false =>
    refine ⟨(h.2 hq).2, fun rest f hrest hf => ?_⟩
    simpa using csToken_plain s.tok f rest [] (h.2 hq).1 hrest (by simpa using hf)

theorem spJoin_eq : ∀ ss : List Spell, spJoin ss = blankJoin (ss.map Spell.text)
  | [] => rfl
  | [_] => rfl
  | s :: s2 :: ss => by
    show s.text ++ 32 :: spJoin (s2 :: ss) = _
    rw [spJoin_eq (s2 :: ss)]; rfl

/-- **C13 (command strings, mixed spellings)**: tokenizing the blank-joined spellings gives back exactly the tokens. -/
theorem C13_cmdstring_mixed (ss : List Spell) (hok : ∀ s ∈ ss, s.ok) : tokenize (spJoin ss) = ss.map Spell.tok := by
  rw [spJoin_eq, tokenize_blankJoin Spell.text Spell.tok ss (fun s hs => reads_spell s (hok s hs))]

theorem C13_cmdstring_mixed_parse (c : Context) (aU aF : Bool) (pos : Option (List Nat)) (ss : List Spell) (hok : ∀ s ∈ ss, s.ok) :
    parseString c aU aF pos (spJoin ss) = parseArgv c aU aF pos (ss.map Spell.tok) :=
  congrArg (parseArgv c aU aF pos) (C13_cmdstring_mixed ss hok)

/-! non-vacuity: `-v a.lp --out C:\tmp\` and a quoted token in between; the string ends in a backslash -/
def exSp : List Spell := [⟨false, [45, 118]⟩, ⟨true, [97, 32, 98]⟩, ⟨false, [45, 45, 111, 117, 116]⟩, ⟨false, [67, 58, 92, 116, 109, 112, 92]⟩]
example : ∀ s ∈ exSp, s.ok := by
  intro s hs
  simp only [exSp, List.mem_cons, List.not_mem_nil, or_false] at hs
  rcases hs with rfl | rfl | rfl | rfl <;> refine ⟨by decide, ?_⟩ <;> intro h <;> first | (cases h; done) | exact ⟨by simp [PlainTok, okc], _, _, rfl, by decide⟩
example : tokenize (spJoin exSp) = [[45, 118], [97, 32, 98], [45, 45, 111, 117, 116], [67, 58, 92, 116, 109, 112, 92]] := by decide

end PotasscoVerif.C13
