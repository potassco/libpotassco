/-
  C01 (continued) — both read modes (`C01_modes`).  Reading in one go is `readProgram` = `parse(Complete)`; reading step by step is `accept`,
  then `parse(Incremental)` repeated while `more()`.  Both loops are models of code that exists (Model/AspifIn.lean: `stepsLoop` /
  `parseInc` + `incLoop`), tied to it by the correspondence run in both modes.  They differ in how often blanks are skipped between steps
  (`parse` skips them, tests `more()`, and the client tests `more()` again); the theorem is that this makes no difference.
-/
import PotasscoVerif.Lemmas.AspifLang
import PotasscoVerif.Props.C04Aspif
namespace PotasscoVerif.C01m
open PotasscoVerif PotasscoVerif.CharStream PotasscoVerif.AspifIn PotasscoVerif.Decimal
open PotasscoVerif.BufferedStream (isWs)

/-- the put-back flag (a ghost of the abstract stream) cleared -/
def unflag (a : AS) : AS := { a with canUnget := false }

theorem skipWs_unflag (a : AS) : (unflag a).skipWs = a.skipWs := rfl

theorem skipWs_of_nws (b : AS) (h : NWS b.rest) : b.skipWs = unflag b := by
  unfold AS.skipWs
  have hp : isWs (unflag b).peek = false := by
    show isWs (b.rest.headD 0) = false
    cases hr : b.rest with
    | nil => simp [isWs]
    | cons c r => exact h c r hr
  show AS.skipWsF (b.rest.length + 1) (unflag b) = unflag b
  unfold AS.skipWsF
  simp [hp]

theorem skipWs_skipWs (a : AS) : a.skipWs.skipWs = unflag a.skipWs :=
  skipWs_of_nws _ (C03.skipWs_nws a)

theorem posMax_unflag (m : Nat) (a : AS) : posMax m (unflag a) = posMax m a := by
  unfold posMax intIn AS.matchInt
  simp only [Bool.false_eq_true, ↓reduceIte, skipWs_unflag]

theorem dirStep_unflag (a : AS) : dirStep (unflag a) = dirStep a := by
  unfold dirStep; rw [posMax_unflag]

theorem stepLoop_unflag (f : Nat) (a : AS) (acc : List Call) : stepLoop f (unflag a) acc = stepLoop f a acc := by
  cases f with
  | zero => rfl
  | succ f => rw [C04.stepLoop_succ, C04.stepLoop_succ, dirStep_unflag]

theorem more_unflag (a : AS) : more (unflag a) = more a := rfl

theorem more_skipWs (a : AS) : more a.skipWs = ((more a).1, unflag (more a).2) := by
  unfold more
  rw [skipWs_skipWs]
  rfl

/-! The three readers (aspif, smodels, text) have the same two loops around their own way of reading one step, `body`.  One round of
    `parse(Complete)` is `C04.stepsRound`, one of the step-by-step loop `incRound`, with the rest of the loop as continuation `k`. -/

/-- `parse(Incremental)`: a step, blanks, the extra-input test -/
def parseRound (body : AS → List Call × Except Nat AS) (inc : Bool) (a : AS) : List Call × Except Nat AS :=
  match (body a).2 with
  | .error l => (.beginStep :: (body a).1, .error l)
  | .ok a1 =>
    if (more a1.skipWs).1 && !inc then (.beginStep :: (body a).1 ++ [.endStep], .error (more a1.skipWs).2.line)
    else (.beginStep :: (body a).1 ++ [.endStep], .ok (more a1.skipWs).2)

/-- one round of the client's loop: `parse(Incremental)`, then the client's own `more()` -/
def incRound (body : AS → List Call × Except Nat AS) (inc : Bool) (k : AS → List Call → Result) (a : AS) (acc : List Call) : Result :=
  match (parseRound body inc a).2 with
  | .error l => { calls := acc ++ (parseRound body inc a).1, err := some l }
  | .ok a1 => if (more a1).1 then k (more a1).2 (acc ++ (parseRound body inc a).1) else { calls := acc ++ (parseRound body inc a).1, err := none }

/-- provided the step reader does not look at the put-back flag: the extra `skipWs` calls of the step-by-step loop change nothing
    but that flag (`more_skipWs`) -/
theorem rounds_agree {body : AS → List Call × Except Nat AS} {inc : Bool} {steps incs : Nat → AS → List Call → Result}
    {z : List Call → Result} (hb : ∀ a, body (unflag a) = body a)
    (hs0 : ∀ a acc, steps 0 a acc = z acc) (hi0 : ∀ a acc, incs 0 a acc = z acc)
    (hs : ∀ f a acc, steps (f + 1) a acc = C04.stepsRound (body a) inc (steps f) acc)
    (hi : ∀ f a acc, incs (f + 1) a acc = incRound body inc (incs f) a acc) :
    ∀ f a acc, incs f a acc = steps f a acc := by
  have hu : ∀ f a acc, steps f (unflag a) acc = steps f a acc := by
    intro f a acc
    cases f with
    | zero => rw [hs0, hs0]
    | succ f => rw [hs, hs, hb]
  intro f
  induction f with
  | zero => intro a acc; rw [hi0, hs0]
  | succ f ih =>
    intro a acc
    rw [hi, hs]
    unfold incRound parseRound C04.stepsRound
    generalize body a = r
    obtain ⟨cs, e⟩ := r
    cases e with
    | error l => simp
    | ok a1 =>
      simp only [more_skipWs]
      by_cases h1 : ((more a1).1 && !inc) = true
      · simp only [h1, ↓reduceIte]
        simp [unflag]
      · simp only [h1, Bool.false_eq_true, ↓reduceIte]
        have hm : more (more a1).2 = ((more a1).1, unflag (more a1).2) := more_skipWs a1
        rw [more_unflag, hm]
        by_cases h2 : (more a1).1 = true
        · simp only [h2, ↓reduceIte]
          rw [ih, hu]
          simp
        · simp [h2]

-- the `rfl`s unfold one round of the model's loops; with the step reader transparent they are slow to check
attribute [local irreducible] stepLoop more AS.skipWs in
theorem incLoop_eq (f : Nat) (inc : Bool) (a : AS) (acc : List Call) : incLoop f inc a acc = stepsLoop f inc a acc :=
  rounds_agree (steps := fun f => stepsLoop f inc) (incs := fun f => incLoop f inc)
    (body := fun a => stepLoop (a.rest.length + 1) a []) (fun a => stepLoop_unflag _ a [])
    (fun _ _ => rfl) (fun _ _ => rfl) (fun _ _ _ => rfl) (fun _ _ _ => rfl) f a acc

/-- **C01 (both read modes)**: for EVERY input text, reading step by step delivers exactly the calls and the result (success, or the
    line of the error) of reading in one go. -/
theorem C01_modes (input : List Nat) : readInc input = AspifIn.read input := by
  unfold readInc AspifIn.read
  simp only [incLoop_eq]

/-- non-vacuity: "asp 1 0 0 incremental", one fact, a blank line, an empty second step -/
example : readInc [97, 115, 112, 32, 49, 32, 48, 32, 48, 32, 105, 110, 99, 114, 101, 109, 101, 110, 116, 97, 108, 10, 49, 32, 48, 32, 49, 32, 49, 32, 48, 32, 48, 10, 48, 10, 32, 10, 48, 10]
    = { calls := [.initProgram true, .beginStep, .rule 0 [1] [], .endStep, .beginStep, .endStep], err := none } := by decide +kernel

end PotasscoVerif.C01m
