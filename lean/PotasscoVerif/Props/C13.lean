/-
  C13 — command-line, command-string and config-file parsing return the intended values.
  Model: Model/Options.lean.  Two halves: the command-string tokenizer undoes quoting (`C13_cmdstring`, the all-quoted case of
  `tokenize_blankJoin`; Props/C13e.lean has the mixed spellings), and each valid spelling of one option occurrence adds exactly the
  intended (option, value) pair and consumes exactly its tokens (`C13_long_*`, `C13_short_*`, `C13_flag_group`).  That the key resolves
  to the option is a hypothesis there: it is C14.
-/
import PotasscoVerif.Model.Options
namespace PotasscoVerif.C13
open PotasscoVerif.Options PotasscoVerif.OptIndex

/-- quoting a token for a command string: in double quotes, `\` and `"` escaped by a backslash. -/
def esc : List Nat → List Nat
  | [] => []
  | c :: r => if c == 92 || c == 34 then 92 :: c :: esc r else c :: esc r
def quoteTok (t : List Nat) : List Nat := 34 :: (esc t ++ [34])
def quoteJoin : List (List Nat) → List Nat
  | [] => []
  | [t] => quoteTok t
  | t :: ts => quoteTok t ++ 32 :: quoteJoin ts

theorem esc_length_ge (t : List Nat) : t.length ≤ (esc t).length := by
  induction t with
  | nil => exact Nat.le_refl _
  | cons c r ih => unfold esc; split <;> simp only [List.length_cons] <;> omega

/-! ### one character of `CommandStringParser::next` -/

theorem step_char (f c : Nat) (r : List Nat) (t : Nat) (acc : List Nat) (ht : c ≠ t) (hq : t = 32 → c ≠ 39 ∧ c ≠ 34) (h92 : c ≠ 92) :
    csToken (f + 1) (c :: r) t acc = csToken f r t (c :: acc) := by
  -- `show` unfolds one round of the loop to its cascade of tests without calling for the equation lemmas
  show (if _ then _ else if _ then _ else if _ then _ else _) = _
  rw [if_neg (by simpa using ht), if_neg, if_pos (by simpa using h92)]
  simp only [Bool.and_eq_true, Bool.or_eq_true, beq_iff_eq]
  exact fun h => h.1.elim (hq h.2).1 (hq h.2).2

theorem step_escape (f c : Nat) (r : List Nat) (t : Nat) (acc : List Nat) (ht : t ≠ 92) (hc : c = 34 ∨ c = 39 ∨ c = 92) :
    csToken (f + 1) (92 :: c :: r) t acc = csToken f r t (c :: acc) := by
  show (if _ then _ else if _ then _ else if _ then _ else if _ then _ else _) = _
  rw [if_neg (by simpa using ht.symm), if_neg (by simp), if_neg (by simp), if_pos (by simpa [or_assoc] using hc)]

theorem step_backslash (f : Nat) (r : List Nat) (t : Nat) (acc : List Nat) (ht : t ≠ 92)
    (hr : ∀ n r', r = n :: r' → n ≠ 34 ∧ n ≠ 39 ∧ n ≠ 92) : csToken (f + 1) (92 :: r) t acc = csToken f r t (92 :: acc) := by
  show (if _ then _ else if _ then _ else if _ then _ else _) = _
  rw [if_neg (by simpa using ht.symm), if_neg (by simp), if_neg (by simp)]
  cases r with
  | nil => rfl
  | cons n r' => exact if_neg (by simpa [and_assoc] using hr n r' rfl)

theorem step_close (f : Nat) (r acc : List Nat) : csToken (f + 1) (34 :: r) 34 acc = csToken f r 32 acc := rfl
theorem step_open (f : Nat) (r acc : List Nat) : csToken (f + 1) (34 :: r) 32 acc = csToken f r 34 acc := rfl
theorem step_nil (f t : Nat) (acc : List Nat) : csToken (f + 1) [] t acc = (acc.reverse, []) := rfl

theorem step_end (f : Nat) (rest acc : List Nat) (hrest : rest = [] ∨ ∃ r, rest = 32 :: r) :
    csToken (f + 1) rest 32 acc = (acc.reverse, rest) := by
  obtain rfl | ⟨r, rfl⟩ := hrest <;> rfl

/-- `text` is a way of writing the token `tok`. -/
def Reads (text tok : List Nat) : Prop :=
  (∃ c r, text = c :: r ∧ isCSpace c = false) ∧
  ∀ (rest : List Nat) (f : Nat), (rest = [] ∨ ∃ r, rest = 32 :: r) → text.length + 1 ≤ f → csToken f (text ++ rest) 32 [] = (tok, rest)

theorem csToken_esc (t : List Nat) (f : Nat) (rest acc : List Nat) :
    csToken (f + t.length) (esc t ++ 34 :: rest) 34 acc = csToken f (34 :: rest) 34 (t.reverse ++ acc) := by
  induction t generalizing acc with
  | nil => rfl
  | cons c r ih =>
    have hr := ih (c :: acc)
    rw [List.reverse_cons, List.append_assoc, List.singleton_append, ← hr, List.length_cons, ← Nat.add_assoc, esc]
    split
    · rename_i hc
      simp only [Bool.or_eq_true, beq_iff_eq] at hc
      exact step_escape _ c _ 34 acc (by decide) (hc.elim (fun h => .inr (.inr h)) .inl)
    · rename_i hc
      simp only [Bool.or_eq_true, beq_iff_eq, not_or] at hc
      exact step_char _ c _ 34 acc hc.2 (fun h => by cases h) hc.1

theorem reads_quoted (t : List Nat) : Reads (quoteTok t) t := by
  refine ⟨⟨34, _, rfl, by decide⟩, fun rest f hrest hf => ?_⟩
  have hlen : (quoteTok t).length = (esc t).length + 2 := by simp [quoteTok]
  obtain ⟨g, rfl⟩ : ∃ g, f = ((g + 1) + 1 + t.length) + 1 := ⟨f - t.length - 3, by have := esc_length_ge t; omega⟩
  rw [quoteTok, List.cons_append, List.append_assoc, List.singleton_append, step_open, csToken_esc t _ _ [], step_close, step_end _ _ _ hrest,
    List.append_nil, List.reverse_reverse]

def blankJoin : List (List Nat) → List Nat
  | [] => []
  | [t] => t
  | t :: ts => t ++ 32 :: blankJoin ts

theorem quoteJoin_eq : ∀ ts : List (List Nat), quoteJoin ts = blankJoin (ts.map quoteTok)
  | [] => rfl
  | [_] => rfl
  | t :: t2 :: ts => by
    show quoteTok t ++ 32 :: quoteJoin (t2 :: ts) = _
    rw [quoteJoin_eq (t2 :: ts)]; rfl

theorem csTokens_blanks (f : Nat) (sep : List Nat) (acc : List (List Nat)) (hsep : ∀ ch ∈ sep, isCSpace ch = true) :
    csTokens f sep acc = acc.reverse := by
  cases f with
  | zero => rfl
  | succ f =>
    have : sep.dropWhile isCSpace = [] := by rw [← List.append_nil sep, List.dropWhile_append_of_pos hsep]; rfl
    simp only [csTokens, this, List.isEmpty_nil, ↓reduceIte]

theorem csTokens_read (f : Nat) (sep text tok rest : List Nat) (acc : List (List Nat)) (hsep : ∀ ch ∈ sep, isCSpace ch = true)
    (ht : Reads text tok) (hrest : rest = [] ∨ ∃ r, rest = 32 :: r) :
    csTokens (f + 1) (sep ++ (text ++ rest)) acc = csTokens f rest (tok :: acc) := by
  obtain ⟨⟨c, r, rfl, hc⟩, hread⟩ := ht
  have hdw : (sep ++ (c :: r ++ rest)).dropWhile isCSpace = c :: r ++ rest := by
    rw [List.dropWhile_append_of_pos hsep, List.cons_append, List.dropWhile_cons_of_neg (by simp [hc])]
  simp only [csTokens, hdw]
  rw [hread rest _ hrest (by simp only [List.length_append]; omega)]
  rfl

theorem csTokens_blankJoin {α : Type} (text tok : α → List Nat) (items : List α) (h : ∀ x ∈ items, Reads (text x) (tok x))
    (sep : List Nat) (hsep : ∀ ch ∈ sep, isCSpace ch = true) (f : Nat) (acc : List (List Nat)) (hf : (blankJoin (items.map text)).length < f) :
    csTokens f (sep ++ blankJoin (items.map text)) acc = acc.reverse ++ items.map tok := by
  induction items generalizing sep f acc with
  | nil => simp only [List.map_nil, blankJoin, List.append_nil, csTokens_blanks f sep acc hsep]
  | cons x xs ih =>
    obtain ⟨f, rfl⟩ : ∃ g, f = g + 1 := ⟨f - 1, by omega⟩
    have hx := h x (List.mem_cons_self ..)
    cases xs with
    | nil =>
      rw [List.map_cons, List.map_nil, blankJoin, ← List.append_nil (text x), csTokens_read f sep _ _ [] acc hsep hx (Or.inl rfl),
        csTokens_blanks f [] _ (fun _ h => nomatch h)]
      exact List.reverse_cons
    | cons y ys =>
      have := ih (fun z hz => h z (List.mem_cons_of_mem _ hz)) [32] (by simp [isCSpace]) f (tok x :: acc)
        (by simp only [List.map_cons, blankJoin, List.length_append, List.length_cons] at hf ⊢; omega)
      show csTokens (f + 1) (sep ++ (text x ++ 32 :: blankJoin ((y :: ys).map text))) acc = _
      rw [csTokens_read f sep _ _ _ acc hsep hx (Or.inr ⟨_, rfl⟩), ← List.singleton_append, this, List.reverse_cons, List.append_assoc]
      rfl

theorem tokenize_blankJoin {α : Type} (text tok : α → List Nat) (items : List α) (h : ∀ x ∈ items, Reads (text x) (tok x)) :
    tokenize (blankJoin (items.map text)) = items.map tok :=
  (csTokens_blankJoin text tok items h [] (fun _ h => nomatch h) _ [] (Nat.lt_succ_self _)).trans (List.nil_append _)

theorem quoteTok_head (t : List Nat) : ∃ r, quoteTok t = 34 :: r := ⟨_, rfl⟩

/-- **C13_cmdstring.** The command-string tokenizer is a left inverse of quoting, for every list of tokens (blanks, quotes, backslashes,
    empty tokens).  (`hn`: the tokens are C strings; the tokenizer model does not look at NUL, so the proof has no use for it.) -/
theorem C13_cmdstring (ts : List (List Nat)) (hn : ∀ t ∈ ts, ∀ c ∈ t, c ≠ 0) : tokenize (quoteJoin ts) = ts := by
  rw [quoteJoin_eq, tokenize_blankJoin quoteTok id ts (fun t _ => reads_quoted t), List.map_id]

/-- hence parsing the command string is parsing the tokens. -/
theorem C13_cmdstring_parse (c : Context) (aU aF : Bool) (pos : Option (List Nat)) (ts : List (List Nat))
    (hn : ∀ t ∈ ts, ∀ x ∈ t, x ≠ 0) : parseString c aU aF pos (quoteJoin ts) = parseArgv c aU aF pos ts :=
  congrArg (parseArgv c aU aF pos) (C13_cmdstring ts hn)

/-! ### one token of `CommandLineParser::doParse` -/

/-- **C13_terminator.** `--` ends option processing: all following tokens are left in order. -/
theorem C13_terminator (c : Context) (aU aF : Bool) (pos : Option (List Nat)) (f : Nat) (p : PState) (tail : List (List Nat))
    (hp : p.toks = [45, 45] :: tail) :
    parseLoop c aU aF pos (f + 1) p = .ok { p with toks := [], remaining := p.remaining ++ tail } := by
  unfold parseLoop
  simp [hp]

/-- the handler a token other than `--` is given to: `getOptionType` -/
def dispatch (c : Context) (aU aF : Bool) (pos : Option (List Nat)) (curr : List Nat) (p : PState) : Except Err (Bool × PState) :=
  if [45, 45].isPrefixOf curr then handleLong c aU aF (curr.drop 2) p
  else if curr.head? == some 45 && curr.length > 1 then handleShort c aU (curr.length + 1) (curr.drop 1) p
  else handlePos c aU pos curr p

def leave (curr : List Nat) (r : Bool × PState) : PState := if r.1 then r.2 else { r.2 with remaining := r.2.remaining ++ [curr] }

theorem parseLoop_cons (c : Context) (aU aF : Bool) (pos : Option (List Nat)) (f : Nat) (curr : List Nat) (rest : List (List Nat))
    (vs : List (Nat × List Nat)) (rm : List (List Nat)) (hcurr : curr ≠ [45, 45]) :
    parseLoop c aU aF pos (f + 1) { toks := curr :: rest, values := vs, remaining := rm } =
      match dispatch c aU aF pos curr { toks := rest, values := vs, remaining := rm } with
      | .error e => .error e
      | .ok r => parseLoop c aU aF pos f (leave curr r) := by
  -- one round of the loop, as in `step_char`
  show (if _ then (if _ then _ else _) else if _ then _ else _) = _
  unfold dispatch
  by_cases hA : [45, 45].isPrefixOf curr = true
  · have hlen : ¬ curr.length = 2 := fun h => hcurr ((List.isPrefixOf_iff_prefix.mp hA).eq_of_length h.symm).symm
    rw [if_pos hA, if_pos hA, if_neg hlen]
    rcases handleLong c aU aF (curr.drop 2) { toks := rest, values := vs, remaining := rm } with e | ⟨_ | _, p'⟩ <;> rfl
  · rw [if_neg hA, if_neg hA]
    by_cases hB : (curr.head? == some 45 && decide (curr.length > 1)) = true
    · rw [if_pos hB, if_pos hB]
      rcases handleShort c aU (curr.length + 1) (curr.drop 1) { toks := rest, values := vs, remaining := rm } with e | ⟨_ | _, p'⟩ <;> rfl
    · rw [if_neg hB, if_neg hB]
      rcases handlePos c aU pos curr { toks := rest, values := vs, remaining := rm } with e | ⟨_ | _, p'⟩ <;> rfl

section
variable {c : Context} {aU aF : Bool} {pos : Option (List Nat)} {rest : List (List Nat)} {vs : List (Nat × List Nat)} {rm : List (List Nat)}
  {res : Bool × PState}

theorem parseLoop_step {curr : List Nat} (hcurr : curr ≠ [45, 45])
    (h : dispatch c aU aF pos curr { toks := rest, values := vs, remaining := rm } = .ok res) (f : Nat) :
    parseLoop c aU aF pos (f + 1) { toks := curr :: rest, values := vs, remaining := rm } = parseLoop c aU aF pos f (leave curr res) := by
  rw [parseLoop_cons c aU aF pos f curr rest vs rm hcurr, h]

theorem parseLoop_long {r : List Nat} (hr : r ≠ []) (h : handleLong c aU aF r { toks := rest, values := vs, remaining := rm } = .ok res) (f : Nat) :
    parseLoop c aU aF pos (f + 1) { toks := (45 :: 45 :: r) :: rest, values := vs, remaining := rm } =
      parseLoop c aU aF pos f (leave (45 :: 45 :: r) res) :=
  parseLoop_step (curr := 45 :: 45 :: r) (fun e => hr (List.cons.inj (List.cons.inj e).2).2) h f

/-- `F` is the fuel the loop passes on. -/
theorem parseLoop_short {l : List Nat} {F : Nat} (hl : l ≠ []) (hh : l.head? ≠ some 45) (hF : l.length + 2 = F)
    (h : handleShort c aU F l { toks := rest, values := vs, remaining := rm } = .ok res) (f : Nat) :
    parseLoop c aU aF pos (f + 1) { toks := (45 :: l) :: rest, values := vs, remaining := rm } = parseLoop c aU aF pos f (leave (45 :: l) res) := by
  subst hF
  obtain ⟨a, r, rfl⟩ := List.exists_cons_of_ne_nil hl
  have ha : ¬ 45 = a := fun e => hh (by rw [← e]; rfl)
  refine parseLoop_step (fun e => ha (List.cons.inj (List.cons.inj e).2).1.symm) ?_ f
  rw [← h]
  simp [dispatch, List.isPrefixOf, ha]

theorem parseLoop_pos {tok : List Nat} (hd : List.isPrefixOf [45, 45] tok = false) (hs : (tok.head? == some 45 && decide (tok.length > 1)) = false)
    (h : handlePos c aU pos tok { toks := rest, values := vs, remaining := rm } = .ok res) (f : Nat) :
    parseLoop c aU aF pos (f + 1) { toks := tok :: rest, values := vs, remaining := rm } = parseLoop c aU aF pos f (leave tok res) := by
  refine parseLoop_step (fun e => by rw [e] at hd; cases hd) ?_ f
  simp only [dispatch, hd, hs, Bool.false_eq_true, ↓reduceIte, h]
end

theorem splitEq_some (n v : List Nat) (h : ∀ c ∈ n, c ≠ 61) : splitEq (n ++ 61 :: v) = (n, some v) := by
  induction n with
  | nil => rfl
  | cons a n ih =>
    rw [List.cons_append, splitEq.eq_3 _ _ (h a (List.mem_cons_self ..)), ih (fun c hc => h c (List.mem_cons_of_mem _ hc))]

theorem splitEq_none (n : List Nat) (h : ∀ c ∈ n, c ≠ 61) : splitEq n = (n, none) := by
  induction n with
  | nil => rfl
  | cons a n ih =>
    rw [splitEq.eq_3 _ _ (h a (List.mem_cons_self ..)), ih (fun c hc => h c (List.mem_cons_of_mem _ hc))]

/-- `--name=value` (value not empty): exactly the pair (option, value); no further token is consumed.
    (For a flag this spelling needs `command_line_allow_flag_value`.  `hno` holds trivially: with a value attached `handleLong` does not try
    the name as `no-<name>`.) -/
theorem C13_long_eq (c : Context) (aU aF : Bool) (name v : List Nat) (k : Nat) (p : PState)
    (hname : ∀ x ∈ name, x ≠ 61) (hv : v ≠ []) (hno : ¬ [110, 111, 45].isPrefixOf (name ++ 61 :: v) = true ∨ True)
    (hget : getOption c aU name .nameOrPrefix = .ok (some k)) (hflag : (optOf c k).flag = false ∨ aF = true) :
    handleLong c aU aF (name ++ 61 :: v) p = .ok (true, p.addValue k v) := by
  unfold handleLong
  rw [splitEq_some name v hname]
  simp only [Option.getD_some, List.isEmpty_eq_false_iff.mpr hv, hget]
  rcases hflag with h | h <;> simp [h]

/-- `--name value` for an option that requires an argument: the next token is the value, whatever it looks like
    (empty, starting with '-', …). -/
theorem C13_long_sep (c : Context) (aU aF : Bool) (name v : List Nat) (k : Nat) (p : PState) (rest : List (List Nat))
    (hname : ∀ x ∈ name, x ≠ 61) (hneg : [110, 111, 45].isPrefixOf name = false)
    (hget : getOption c aU name .nameOrPrefix = .ok (some k)) (himp : (optOf c k).implicit = false)
    (htoks : p.toks = v :: rest) :
    handleLong c aU aF name p = .ok (true, ({ p with toks := rest }).addValue k v) := by
  unfold handleLong
  rw [splitEq_none name hname]
  simp [hget, himp, htoks]

/-- `--name` for a flag or an implicit-value option: the pair (option, ""), i.e. the implicit value. -/
theorem C13_long_implicit (c : Context) (aU aF : Bool) (name : List Nat) (k : Nat) (p : PState)
    (hname : ∀ x ∈ name, x ≠ 61) (hneg : [110, 111, 45].isPrefixOf name = false)
    (hget : getOption c aU name .nameOrPrefix = .ok (some k)) (himp : (optOf c k).implicit = true) :
    handleLong c aU aF name p = .ok (true, p.addValue k []) := by
  unfold handleLong
  rw [splitEq_none name hname]
  simp [hget, himp]

/-- `-avalue` (value not empty) for an option that requires an argument. -/
theorem C13_short_attached (c : Context) (aU : Bool) (a : Nat) (v : List Nat) (k : Nat) (p : PState) (f : Nat)
    (hv : v ≠ []) (hget : getOption c aU [a] .alias = .ok (some k)) (himp : (optOf c k).implicit = false) :
    handleShort c aU (f + 1) (a :: v) p = .ok (true, p.addValue k v) := by
  simp [handleShort, hget, himp, hv]

/-- `-a value` for an option that requires an argument. -/
theorem C13_short_sep (c : Context) (aU : Bool) (a : Nat) (v : List Nat) (k : Nat) (p : PState) (rest : List (List Nat)) (f : Nat)
    (hget : getOption c aU [a] .alias = .ok (some k)) (himp : (optOf c k).implicit = false) (htoks : p.toks = v :: rest) :
    handleShort c aU (f + 1) [a] p = .ok (true, ({ p with toks := rest }).addValue k v) := by
  simp [handleShort, hget, himp, htoks]

/-- a grouped flag `-a…`: the flag is set and the rest of the group is processed. -/
theorem C13_flag_group (c : Context) (aU : Bool) (a : Nat) (more : List Nat) (k : Nat) (p : PState) (f : Nat)
    (hget : getOption c aU [a] .alias = .ok (some k)) (himp : (optOf c k).implicit = true) (hflag : (optOf c k).flag = true) :
    handleShort c aU (f + 1) (a :: more) p = handleShort c aU f more (p.addValue k []) := by
  simp [handleShort, hget, himp, hflag]

/-! non-vacuity: quoted tokens with every special character -/
example : tokenize (quoteJoin [[97, 32, 98], [], [34, 92, 39], [45, 45, 120, 61, 92, 92]]) = [[97, 32, 98], [], [34, 92, 39], [45, 45, 120, 61, 92, 92]] := by decide

end PotasscoVerif.C13
