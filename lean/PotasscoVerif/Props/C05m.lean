/-
  C05 / C07 (continued) — both read modes of the smodels reader agree (as `C01_modes`; harness command `sri` drives the real reader
  step by step).
-/
import PotasscoVerif.Props.C01m
import PotasscoVerif.Props.C04Smodels
namespace PotasscoVerif.C05m
open PotasscoVerif PotasscoVerif.CharStream PotasscoVerif.SmodelsIn PotasscoVerif.C01m
open PotasscoVerif.AspifIn (Result more pos)

theorem rulesLoop_unflag (ext : Bool) (f : Nat) (a : AS) (prio : Nat) (acc : List Call) :
    rulesLoop ext f (unflag a) prio acc = rulesLoop ext f a prio acc := by
  cases f with
  | zero => rfl
  | succ f => rw [C04.rulesLoop_succ, C04.rulesLoop_succ, show pos (unflag a) = pos a from posMax_unflag _ a]

attribute [local irreducible] SmodelsIn.rulesLoop SmodelsIn.symbolsLoop SmodelsIn.compute SmodelsIn.extra in
theorem step_unflag (ext : Bool) (a : AS) : step ext (unflag a) = step ext a := by
  have e : rulesLoop ext ((unflag a).rest.length + 1) (unflag a) 0 [] = rulesLoop ext (a.rest.length + 1) a 0 [] := rulesLoop_unflag ext _ a 0 []
  unfold step
  rw [e]

attribute [local irreducible] SmodelsIn.step more AS.skipWs in
theorem incLoop_eq (ext : Bool) (f : Nat) (inc : Bool) (a : AS) (acc : List Call) :
    SmodelsIn.incLoop ext f inc a acc = SmodelsIn.stepsLoop ext f inc a acc :=
  rounds_agree (steps := fun f => SmodelsIn.stepsLoop ext f inc) (incs := fun f => SmodelsIn.incLoop ext f inc)
    (body := step ext) (step_unflag ext) (fun _ _ => rfl) (fun _ _ => rfl) (fun _ _ _ => rfl) (fun _ _ _ => rfl) f a acc

/-- **C05/C07 (both read modes)**: for every input text and both settings of the clasp extension, reading step by step (`accept`, then
    `parse(Incremental)` repeated while `more()`) delivers exactly the calls and the result of reading in one go. -/
theorem C05_modes (ext : Bool) (input : List Nat) : SmodelsIn.readInc ext input = SmodelsIn.read ext input := by
  unfold SmodelsIn.readInc SmodelsIn.read
  simp only [incLoop_eq]

end PotasscoVerif.C05m
