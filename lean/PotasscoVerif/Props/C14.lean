/-
  C14 — option lookup resolves a key to the unique matching option or fails correctly.
  Model: Model/OptIndex.lean.  Everything here is for ALL byte values (names with bytes ≥ 0x7f included) and
  ALL sorted indices; `insert` keeps the index sorted, so every context that can be built is covered.
-/
import PotasscoVerif.Model.OptIndex
namespace PotasscoVerif.C14
open PotasscoVerif.OptIndex

def Sorted (ix : Index) : Prop := ix.Pairwise (fun a b => lexLt a.1 b.1 = true)

theorem lexLt_cons_iff (a b : Nat) (x y : List Nat) : lexLt (a :: x) (b :: y) = true ↔ a < b ∨ a = b ∧ lexLt x y = true := by
  show (decide (a < b) || (a == b && lexLt x y)) = true ↔ _
  rw [Bool.or_eq_true, Bool.and_eq_true, decide_eq_true_eq, beq_iff_eq]

theorem lexLt_iff (a b : List Nat) : lexLt a b = true ↔ a < b := by
  induction a generalizing b with
  | nil => cases b <;> simp [lexLt]
  | cons x a ih =>
    cases b with
    | nil => simp [lexLt]
    | cons y b => rw [lexLt_cons_iff, List.cons_lt_cons_iff, ih]

theorem lexLt_irrefl (a : List Nat) : lexLt a a = false := by
  rw [← Bool.not_eq_true, lexLt_iff]; exact List.lt_irrefl a

theorem lexLt_trans (a b c : List Nat) (h1 : lexLt a b = true) (h2 : lexLt b c = true) : lexLt a c = true := by
  rw [lexLt_iff] at *; exact List.lt_trans h1 h2

theorem lexLt_total (a b : List Nat) (h1 : lexLt a b = false) (h2 : lexLt b a = false) : a = b := by
  rw [← Bool.not_eq_true, lexLt_iff, List.not_lt] at h1 h2; exact List.le_antisymm h2 h1

theorem prefix_cons_iff (a b : Nat) (k e : List Nat) : (a :: k).isPrefixOf (b :: e) = true ↔ a = b ∧ k.isPrefixOf e = true := by
  show (a == b && k.isPrefixOf e) = true ↔ _
  rw [Bool.and_eq_true, beq_iff_eq]

theorem not_prefix_of_lt (k e : List Nat) (h : lexLt e k = true) : k.isPrefixOf e = false := by
  rw [← Bool.not_eq_true, List.isPrefixOf_iff_prefix]
  exact fun hp => hp.le ((lexLt_iff e k).mp h)

/-- sandwich: between the key and a word that starts with the key, every word starts with the key. -/
theorem prefix_of_between (k e' e'' : List Nat) (h1 : lexLt e' k = false) (h2 : lexLt e' e'' = true) (h3 : k.isPrefixOf e'' = true) :
    k.isPrefixOf e' = true := by
  induction k generalizing e' e'' with
  | nil => rfl
  | cons a k ih =>
    cases e'' with
    | nil => cases h3
    | cons c e'' =>
      cases e' with
      | nil => cases h1
      | cons b e' =>
        rw [prefix_cons_iff] at h3 ⊢
        obtain ⟨rfl, h3⟩ := h3
        rw [← Bool.not_eq_true, lexLt_cons_iff, not_or, not_and, Bool.not_eq_true] at h1
        rw [lexLt_cons_iff] at h2
        have hba : b = a := h2.elim (fun h => Nat.le_antisymm (Nat.le_of_lt h) (Nat.le_of_not_lt h1.1)) And.left
        subst hba
        exact ⟨rfl, ih e' e'' (h1.2 rfl) (h2.elim (fun h => absurd h (Nat.lt_irrefl _)) And.right) h3⟩

theorem takeWhile_eq_filter_of_pairwise {α : Type} (p : α → Bool) (l : List α) (h : l.Pairwise (fun x y => p y = true → p x = true)) :
    l.takeWhile p = l.filter p := by
  induction l with
  | nil => rfl
  | cons e r ih =>
    obtain ⟨he, hr⟩ := List.pairwise_cons.mp h
    cases hp : p e
    · rw [List.takeWhile_cons_of_neg (by simp [hp]), List.filter_cons_of_neg (by simp [hp])]
      exact (List.filter_eq_nil_iff.mpr fun y hy hpy => by rw [he y hy hpy] at hp; cases hp).symm
    · rw [List.takeWhile_cons_of_pos hp, List.filter_cons_of_pos hp, ih hr]

/-- **C14_prefix_range.** In a sorted index the range computed for a prefix lookup (lower bound, then while the
    entries start with the key) is exactly the set of entries whose name starts with the key — for every
    byte value, in particular for names whose next byte is ≥ 0x7f (D10). -/
theorem C14_prefix_range (k : List Nat) : ∀ (ix : Index), Sorted ix →
    (lowerBound ix k).takeWhile (fun e => k.isPrefixOf e.1) = ix.filter (fun e => k.isPrefixOf e.1) := by
  intro ix
  induction ix with
  | nil => intro _; rfl
  | cons e r ih =>
    intro hs
    obtain ⟨hlt, hsr⟩ := List.pairwise_cons.mp hs
    cases hl : lexLt e.1 k
    · -- from here on every entry is at or above the key
      rw [lowerBound, List.dropWhile_cons_of_neg (by simp [hl])]
      have hge : ∀ e' ∈ e :: r, lexLt e'.1 k = false := fun e' he' => by
        obtain rfl | h := List.mem_cons.mp he'
        · exact hl
        · cases hq : lexLt e'.1 k
          · rfl
          · rw [lexLt_trans _ _ _ (hlt e' h) hq] at hl; cases hl
      exact takeWhile_eq_filter_of_pairwise _ _ (hs.imp_of_mem fun hx _ hlt hp => prefix_of_between k _ _ (hge _ hx) hlt hp)
    · rw [lowerBound, List.dropWhile_cons_of_pos (p := fun (e : Entry) => lexLt e.1 k) hl, List.filter_cons_of_neg (by simp [not_prefix_of_lt k e.1 hl])]
      exact ih hsr

theorem lowerBound_exact : ∀ (ix : Index) (n : List Nat) (o : Nat), Sorted ix → (n, o) ∈ ix →
    ∃ rest, lowerBound ix n = (n, o) :: rest := by
  intro ix
  induction ix with
  | nil => intro n o _ h; cases h
  | cons e r ih =>
    intro n o hs hm
    obtain ⟨hlt, hsr⟩ := List.pairwise_cons.mp hs
    obtain rfl | h := List.mem_cons.mp hm
    · exact ⟨r, List.dropWhile_cons_of_neg (by simp [lexLt_irrefl])⟩
    · obtain ⟨rest, hr⟩ := ih n o hsr h
      exact ⟨rest, (List.dropWhile_cons_of_pos (p := fun (e : Entry) => lexLt e.1 n) (hlt _ h)).trans hr⟩

theorem lowerBound_head_ge (ix : Index) (k : List Nat) (e : Entry) (rest : Index) (h : lowerBound ix k = e :: rest) :
    lexLt e.1 k = false := by
  have := List.head?_dropWhile_not (fun (e : Entry) => lexLt e.1 k) ix
  rwa [← lowerBound, h] at this

theorem lowerBound_head_mem {ix : Index} {k : List Nat} {e : Entry} {rest : Index} (h : lowerBound ix k = e :: rest) : e ∈ ix :=
  (List.dropWhile_sublist _).subset (h ▸ List.mem_cons_self ..)

theorem findRange_not_exact {ix : Index} {key : List Nat} {t : FindType} (hne : t.hasName = false ∨ ∀ o, (effKey key t, o) ∉ ix) :
    findRange ix key t = if t.hasPrefix then (lowerBound ix (effKey key t)).takeWhile (fun e => (effKey key t).isPrefixOf e.1) else [] := by
  unfold findRange
  dsimp only
  cases hlb : lowerBound ix (effKey key t) with
  | nil => cases t.hasPrefix <;> rfl
  | cons e rest =>
    refine if_neg fun h => ?_
    rw [Bool.and_eq_true, beq_iff_eq] at h
    obtain hn | hn := hne
    · rw [hn] at h; cases h.2
    · exact hn e.2 (h.1 ▸ lowerBound_head_mem hlb)

/-- **exact lookups** (by name, name-or-prefix, alias): a key that is a name of the index is resolved to the
    option with that name, whatever other names share it as a prefix. -/
theorem C14_find_exact (ix : Index) (hs : Sorted ix) (key : List Nat) (t : FindType) (o : Nat)
    (hn : t.hasName = true) (hm : (effKey key t, o) ∈ ix) :
    find ix key t = .opt o ∧ tryFind ix key t = some o := by
  obtain ⟨rest, hr⟩ := lowerBound_exact ix (effKey key t) o hs hm
  unfold find tryFind findRange
  simp [hr, hn]

/-- **prefix lookups**: when the key is not itself resolved as an exact name, the candidates are exactly the
    entries whose name starts with the key.  `find` and `tryFind` read their answer off this list: one entry → that
    option, none → unknown, several → ambiguous listing exactly those names; `tryFind` finds something in precisely
    the unique case. -/
theorem C14_find_prefix (ix : Index) (hs : Sorted ix) (key : List Nat) (t : FindType)
    (hp : t.hasPrefix = true) (hne : t.hasName = false ∨ ∀ o, (effKey key t, o) ∉ ix) :
    findRange ix key t = ix.filter (fun e => (effKey key t).isPrefixOf e.1) := by
  rw [findRange_not_exact hne, if_pos hp, C14_prefix_range _ ix hs]

/-- lookups that allow no prefix (by name, by alias) and find no exact name report "unknown". -/
theorem C14_find_unknown (ix : Index) (hs : Sorted ix) (key : List Nat) (t : FindType)
    (hp : t.hasPrefix = false) (hne : ∀ o, (effKey key t, o) ∉ ix) :
    find ix key t = .unknown ∧ tryFind ix key t = none := by
  unfold find tryFind
  rw [findRange_not_exact (Or.inr hne), if_neg (by rw [hp]; exact Bool.noConfusion)]
  exact ⟨rfl, rfl⟩

theorem insert_spec : ∀ (ix : Index) (n : List Nat) (k : Nat), Sorted ix →
    (∀ ix', OptIndex.insert ix n k = some ix' → Sorted ix' ∧ ∀ e, e ∈ ix' ↔ (e = (n, k) ∨ e ∈ ix)) ∧
    (OptIndex.insert ix n k = none ↔ ∃ o, (n, o) ∈ ix) := by
  intro ix n k hs
  fun_induction OptIndex.insert ix n k with
  | case1 =>
    refine ⟨fun ix' h => ?_, ⟨fun h => (nomatch h), fun ⟨_, h⟩ => (nomatch h)⟩⟩
    cases h
    exact ⟨List.pairwise_singleton _ _, fun e => List.mem_singleton.trans ⟨Or.inl, fun h => h.elim id fun h => nomatch h⟩⟩
  | case2 e r n k h1 =>
    -- the new name goes in front
    have hn : ∀ e' ∈ e :: r, lexLt n e'.1 = true := fun e' he' =>
      (List.mem_cons.mp he').elim (fun h => h ▸ h1) (fun h => lexLt_trans _ _ _ h1 ((List.pairwise_cons.mp hs).1 e' h))
    refine ⟨fun ix' h => ?_, ⟨fun h => (nomatch h), fun ⟨o, ho⟩ => ?_⟩⟩
    · cases h; exact ⟨List.pairwise_cons.mpr ⟨hn, hs⟩, fun _ => List.mem_cons⟩
    · have := hn _ ho; rw [lexLt_irrefl] at this; cases this
  | case3 e r n k _ h2 =>
    -- the name is taken
    exact ⟨fun _ h => (nomatch h), ⟨fun _ => ⟨e.2, beq_iff_eq.mp h2 ▸ List.mem_cons_self ..⟩, fun _ => rfl⟩⟩
  | case4 e r n k h1 h2 ih =>
    -- the new name goes somewhere behind `e`
    obtain ⟨hlt, hsr⟩ := List.pairwise_cons.mp hs
    obtain ⟨hsome, hnone⟩ := ih hsr
    have hen : lexLt e.1 n = true := by
      cases hq : lexLt e.1 n
      · exact absurd (lexLt_total _ _ hq (by simpa using h1)) (by simpa using h2)
      · rfl
    refine ⟨fun ix' h => ?_, ?_⟩
    · obtain ⟨r', hi, rfl⟩ := Option.map_eq_some_iff.mp h
      obtain ⟨hs', hm'⟩ := hsome r' hi
      refine ⟨List.pairwise_cons.mpr ⟨fun e' he' => ((hm' e').mp he').elim (fun h => h ▸ hen) (hlt e'), hs'⟩, fun e' => ?_⟩
      rw [List.mem_cons, List.mem_cons, hm' e', or_left_comm]
    · rw [Option.map_eq_none_iff, hnone]
      refine exists_congr fun o => ⟨List.mem_cons_of_mem _, fun ho => (List.mem_cons.mp ho).resolve_left fun h => h2 ?_⟩
      rw [← h]; exact beq_self_eq_true _

/-- **duplicates are refused**: adding an option or alias whose long, short or alias name is taken fails. -/
theorem C14_duplicate (ix : Index) (hs : Sorted ix) (n : List Nat) (k : Nat) :
    OptIndex.insert ix n k = none ↔ ∃ o, (n, o) ∈ ix := (insert_spec ix n k hs).2

/-- **a refused add leaves the context as it was** when the option's short name is the one that is taken (the short name is looked at
    first): the add fails and the context the caller goes on using is the one it had — every lookup answers as before.
    (When the short name is new and only the long name is taken, the code has already entered the short name: `Ctx.afterRefused`.) -/
theorem C14_refused_short_unchanged (c : Ctx) (name : List Nat) (alias : Nat) (ha : alias ≠ 0) (hs : Sorted c.index)
    (ht : ∃ o, ([45, alias], o) ∈ c.index) : c.addOption name alias = none ∧ c.afterRefused alias = c := by
  have hi : OptIndex.insert c.index [45, alias] c.nOpts = none := (C14_duplicate c.index hs _ _).mpr ht
  constructor
  · simp [Ctx.addOption, ha, hi]
  · simp [Ctx.afterRefused, ha, hi]

/-- an option without short name that is refused changes nothing either -/
theorem C14_refused_noalias_unchanged (c : Ctx) : c.afterRefused 0 = c := by simp [Ctx.afterRefused]

/-- adding the options of another context one by one: an option that is accepted is inserted exactly like a single `add`, and the merge goes on
    from the context that single add yields -/
theorem C14_merge_step (c c' : Ctx) (o : List Nat × Nat × Nat) (r : List (List Nat × Nat × Nat)) (h : c.addOption o.1 o.2.1 = some c') :
    c.addAll (o :: r) = c'.addAll r := by
  show (match c.addOption o.1 o.2.1 with | some c' => _ | none => _) = _
  rw [h]

/-- a refused merge stops at the first option that is refused; the options before it stay -/
theorem C14_merge_refused (c : Ctx) (o : List Nat × Nat × Nat) (r : List (List Nat × Nat × Nat)) (h : c.addOption o.1 o.2.1 = none) :
    c.addAll (o :: r) = (c.afterRefused o.2.1, false) := by
  show (match c.addOption o.1 o.2.1 with | some c' => _ | none => _) = _
  rw [h]

/-! non-vacuity: names with bytes ≥ 0x7f after a shared prefix -/
def exIndex : Index := [([45, 102], 0), ([102, 111, 111], 0), ([102, 111, 111, 45, 98], 1), ([102, 111, 195, 164], 2)]
example : Sorted exIndex := by unfold Sorted; decide
example : find exIndex [102, 111] .pfx = .ambiguous [[102, 111, 111], [102, 111, 111, 45, 98], [102, 111, 195, 164]] := by decide
example : find exIndex [102, 111, 195] .nameOrPrefix = .opt 2 := by decide
example : find exIndex [102, 111, 111] .nameOrPrefix = .opt 0 ∧ find exIndex [102] .alias = .opt 0 := by decide

end PotasscoVerif.C14
