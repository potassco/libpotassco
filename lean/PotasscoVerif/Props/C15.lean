/-
  C15 — option values are assigned with first-source-wins precedence and defaults last.
  Theorems about Model/OptAssign.lean (tied to src/program_options.cpp by the `oa` correspondence).
-/
import PotasscoVerif.Model.OptAssign
namespace PotasscoVerif.C15
open PotasscoVerif.Options PotasscoVerif.OptAssign

theorem slotOf_setSlot_same (s : AState) (k : Nat) (sl : Slot) (h : k < s.slots.length) : slotOf (setSlot s k sl) k = sl := by
  simp [slotOf, setSlot, List.getD, h]
theorem slotOf_setSlot_ne (s : AState) (k j : Nat) (sl : Slot) (h : k ≠ j) : slotOf (setSlot s k sl) j = slotOf s j := by
  simp [slotOf, setSlot, List.getD, List.getElem?_set_ne h]
theorem slotOf_default (s : AState) (k : Nat) (h : s.slots.length ≤ k) : (slotOf s k).state = 0 := by
  simp [slotOf, List.getD, List.getElem?_eq_none h]
theorem setSlot_oob (s : AState) (k : Nat) (sl : Slot) (h : s.slots.length ≤ k) : setSlot s k sl = s := by
  simp [setSlot, List.set_eq_of_length_le h]
@[simp] theorem setSlot_parsed (s : AState) (k : Nat) (sl : Slot) : (setSlot s k sl).parsed = s.parsed := rfl
@[simp] theorem setSlot_length (s : AState) (k : Nat) (sl : Slot) : (setSlot s k sl).slots.length = s.slots.length := by simp [setSlot]

theorem slotOf_setSlot (s : AState) (k j : Nat) (sl : Slot) : slotOf (setSlot s k sl) j = if k = j ∧ k < s.slots.length then sl else slotOf s j := by
  by_cases h : k = j
  · subst h
    by_cases hl : k < s.slots.length
    · rw [if_pos ⟨rfl, hl⟩, slotOf_setSlot_same _ _ _ hl]
    · rw [if_neg (fun e => hl e.2), setSlot_oob _ _ _ (Nat.le_of_not_lt hl)]
  · rw [if_neg (fun e => h e.1), slotOf_setSlot_ne _ _ _ _ h]

theorem setSlot_slotOf (s : AState) (k : Nat) : setSlot s k (slotOf s k) = s := by
  by_cases hl : k < s.slots.length
  · obtain ⟨slots, parsed⟩ := s
    simp [setSlot, slotOf, List.getD, hl]
  · exact setSlot_oob _ _ _ (Nat.le_of_not_lt hl)

@[simp] theorem slotOf_withParsed (s : AState) (p) (j : Nat) : slotOf (withParsed s p) j = slotOf s j := rfl
@[simp] theorem withParsed_parsed (s : AState) (p) : (withParsed s p).parsed = p := rfl

/-- no value is in state `fixed` -/
def NoFixed (s : AState) : Prop := ∀ i, (slotOf s i).state ≠ 2

theorem valueParse_state (o : OptSpec) (sl : Slot) (v : List Nat) (st : Nat) :
    (valueParse o sl v st).2.state = if (valueParse o sl v st).1 then st else sl.state := rfl

section
variable (c : Context) (s : AState) (k : Nat) (v : List Nat)

theorem assignOne_eq :
    assignOne c s k v = if (optOf c k).composing = false ∧ (optOf c k).name ∈ s.parsed then (s, 0)
      else if (optOf c k).composing = false ∧ (slotOf s k).state = 2 then (s, 1)
      else (setSlot s k (valueParse (optOf c k) (slotOf s k) v 2).2, if (valueParse (optOf c k) (slotOf s k) v 2).1 then 0 else 2) := by
  simp only [assignOne, Bool.and_eq_true, Bool.not_eq_true', List.contains_iff_mem, beq_iff_eq]

theorem assignOne_active (hp : (optOf c k).composing = true ∨ (optOf c k).name ∉ s.parsed) :
    assignOne c s k v = if (optOf c k).composing = false ∧ (slotOf s k).state = 2 then (s, 1)
      else (setSlot s k (valueParse (optOf c k) (slotOf s k) v 2).2, if (valueParse (optOf c k) (slotOf s k) v 2).1 then 0 else 2) := by
  rw [assignOne_eq, if_neg fun e => hp.elim (fun h => by rw [e.1] at h; cases h) (· e.2)]

/-- the three outcomes of an entry: skipped, refused as a second occurrence, parsed into the slot -/
theorem assignOne_cases (P : AState × Nat → Prop) (hskip : P (s, 0)) (hdup : (slotOf s k).state = 2 → P (s, 1))
    (hval : P (setSlot s k (valueParse (optOf c k) (slotOf s k) v 2).2, if (valueParse (optOf c k) (slotOf s k) v 2).1 then 0 else 2)) :
    P (assignOne c s k v) := by
  rw [assignOne_eq]
  by_cases h1 : (optOf c k).composing = false ∧ (optOf c k).name ∈ s.parsed
  · rw [if_pos h1]; exact hskip
  · rw [if_neg h1]
    by_cases h2 : (optOf c k).composing = false ∧ (slotOf s k).state = 2
    · rw [if_pos h2]; exact hdup h2.2
    · rw [if_neg h2]; exact hval

theorem assignOne_parsed : (assignOne c s k v).1.parsed = s.parsed :=
  assignOne_cases c s k v (·.1.parsed = s.parsed) rfl (fun _ => rfl) rfl
theorem assignOne_frame (j : Nat) (h : k ≠ j) : slotOf (assignOne c s k v).1 j = slotOf s j :=
  assignOne_cases c s k v (fun r => slotOf r.1 j = slotOf s j) rfl (fun _ => rfl) (slotOf_setSlot_ne _ _ _ _ h)
theorem assignOne_length : (assignOne c s k v).1.slots.length = s.slots.length :=
  assignOne_cases c s k v (·.1.slots.length = s.slots.length) rfl (fun _ => rfl) (setSlot_length ..)

theorem assignOne_fixed (h : (slotOf (assignOne c s k v).1 k).state = 2) : (slotOf s k).state = 2 ∨ (assignOne c s k v).2 = 0 := by
  revert h
  refine assignOne_cases c s k v (fun r => (slotOf r.1 k).state = 2 → (slotOf s k).state = 2 ∨ r.2 = 0) (fun _ => Or.inr rfl) (fun h _ => Or.inl h) fun h => ?_
  rw [slotOf_setSlot] at h
  split at h
  · rw [valueParse_state] at h
    split at h
    · exact Or.inr (if_pos ‹_›)
    · exact Or.inl h
  · exact Or.inl h

theorem assignOne_ok (hk : k < s.slots.length) (hp : (optOf c k).composing = true ∨ (optOf c k).name ∉ s.parsed) (h0 : (assignOne c s k v).2 = 0) :
    ¬ ((optOf c k).composing = false ∧ (slotOf s k).state = 2) ∧ (valueParse (optOf c k) (slotOf s k) v 2).1 = true ∧
      slotOf (assignOne c s k v).1 k = (valueParse (optOf c k) (slotOf s k) v 2).2 := by
  rw [assignOne_active c s k v hp] at h0 ⊢
  split at h0
  · cases h0
  · rw [if_neg ‹_›]
    split at h0
    · exact ⟨‹_›, ‹_›, slotOf_setSlot_same _ _ _ hk⟩
    · cases h0
end

section
variable (c : Context) (excl : Option (List (List Nat))) (s : AState) (vals : List (Nat × List Nat))

theorem loop_passed : (assignLoop c excl s vals).2.1 <+: vals ∧ ((assignLoop c excl s vals).2.2 = none → (assignLoop c excl s vals).2.1 = vals) := by
  -- the cases of `assignLoop`: 1 end of the source, 2 ignored entry, 3 accepted entry, 4 `multiple`, 5 `invalid`
  fun_induction assignLoop c excl s vals with
  | case1 => exact ⟨List.prefix_refl _, fun _ => rfl⟩
  | case2 _ _ _ _ _ _ ih | case3 _ _ _ _ _ _ _ _ ih => exact ⟨(List.prefix_cons_inj _).mpr ih.1, fun h => congrArg _ (ih.2 h)⟩
  | case4 | case5 => exact ⟨List.nil_prefix, fun h => nomatch h⟩

theorem loop_parsed : (assignLoop c excl s vals).1.parsed = s.parsed := by
  fun_induction assignLoop c excl s vals with
  | case1 => rfl
  | case2 _ _ _ _ _ _ ih => exact ih
  | case3 _ _ _ _ _ _ _ _ ih => exact ih.trans (assignOne_parsed ..)
  | case4 | case5 => exact assignOne_parsed ..

theorem loop_stop (k : Nat) (v : List Nat) (post : List (Nat × List Nat))
    (hpre : (assignLoop c excl s vals).2.2 = none) (hi : ignored c excl k = false) (h : (assignOne c (assignLoop c excl s vals).1 k v).2 ≠ 0) :
    (assignLoop c excl s (vals ++ (k, v) :: post)).2.2 =
      some (if (assignOne c (assignLoop c excl s vals).1 k v).2 = 1 then .multiple (optOf c k).name v else .invalid (optOf c k).name v) := by
  fun_induction assignLoop c excl s vals with
  | case1 s =>
    rw [List.nil_append, assignLoop, if_neg (by rw [hi]; exact Bool.noConfusion), if_neg (by simpa using h)]
    by_cases h1 : (assignOne c s k v).2 = 1
    · rw [if_pos (by rw [h1]; rfl), if_pos h1]
    · rw [if_neg (by simpa using h1), if_neg h1]
  | case2 _ _ _ _ hi' _ ih => rw [List.cons_append, assignLoop, if_pos hi']; exact ih hpre h
  | case3 _ _ _ _ hi' _ h0 _ ih => rw [List.cons_append, assignLoop, if_neg hi', if_pos h0]; exact ih hpre h
  | case4 | case5 => cases hpre

theorem loop_fixed (j : Nat) (h : (slotOf (assignLoop c excl s vals).1 j).state = 2) :
    (slotOf s j).state = 2 ∨ j ∈ (assignLoop c excl s vals).2.1.map Prod.fst := by
  fun_induction assignLoop c excl s vals with
  | case1 => exact Or.inl h
  | case2 s k v rest _ _ ih => exact (ih h).imp_right (List.mem_cons_of_mem _)
  | case3 s k v rest _ _ _ _ ih =>
    by_cases hkj : k = j
    · exact Or.inr (hkj ▸ List.mem_cons_self ..)
    · exact (ih h).imp (fun h => assignOne_frame c s k v j hkj ▸ h) (List.mem_cons_of_mem _)
  | case4 s k v _ _ _ h0 | case5 s k v _ _ _ h0 =>
    by_cases hkj : k = j
    · subst hkj; exact Or.inl ((assignOne_fixed c s k v h).resolve_right (fun e => h0 (beq_iff_eq.mpr e)))
    · rw [assignOne_frame c s k v j hkj] at h; exact Or.inl h

/-- entries for option `j` are skipped by this source: the exclude set names it or an earlier source assigned it -/
def Inert (j : Nat) : Prop := ignored c excl j = true ∨ ((optOf c j).composing = false ∧ (optOf c j).name ∈ s.parsed)

theorem assignOne_untouched (k j : Nat) (v : List Nat) (hi : ¬ ignored c excl k = true) (h : k ≠ j ∨ Inert c excl s j) :
    slotOf (assignOne c s k v).1 j = slotOf s j := by
  by_cases hk : k = j
  · subst hk
    obtain h | h | h := h
    · exact absurd rfl h
    · exact absurd h hi
    · rw [assignOne_eq, if_pos h]
  · exact assignOne_frame c s k v j hk

theorem loop_frame (j : Nat) (h : j ∉ vals.map Prod.fst ∨ Inert c excl s j) : slotOf (assignLoop c excl s vals).1 j = slotOf s j := by
  fun_induction assignLoop c excl s vals with
  | case1 => rfl
  | case2 s k v rest _ _ ih => exact ih (h.imp_left fun h hm => h (List.mem_cons_of_mem _ hm))
  | case3 s k v rest hi _ _ _ ih =>
    have hk : k ≠ j ∨ Inert c excl s j := h.imp_left fun h e => h (e ▸ List.mem_cons_self ..)
    refine (ih (h.imp (fun h hm => h (List.mem_cons_of_mem _ hm)) fun h => ?_)).trans (assignOne_untouched c excl s k j v hi hk)
    unfold Inert at h ⊢; rw [assignOne_parsed]; exact h
  | case4 s k v _ hi | case5 s k v _ hi =>
    exact assignOne_untouched c excl s k j v hi (h.imp_left fun h e => h (e ▸ List.mem_cons_self ..))
end

/-! ### the scope guard (`finish`) -/
theorem slotOf_recorded (s : AState) (k j : Nat) (p) (h : ((slotOf s k).state == 2) = true) :
    slotOf (withParsed (setSlot s k { (slotOf s k) with state := 0 }) p) j = if k = j then { (slotOf s k) with state := 0 } else slotOf s j := by
  have hk : k < s.slots.length := Nat.lt_of_not_le fun hl => by rw [slotOf_default s k hl] at h; cases h
  rw [slotOf_withParsed, slotOf_setSlot]
  by_cases hkj : k = j
  · rw [if_pos ⟨hkj, hk⟩, if_pos hkj]
  · rw [if_neg (fun e => hkj e.1), if_neg hkj]

theorem finish_slot (c : Context) (s : AState) (l : List (Nat × List Nat)) (j : Nat) :
    slotOf (finish c s l) j = if (slotOf s j).state = 2 ∧ j ∈ l.map Prod.fst then { (slotOf s j) with state := 0 } else slotOf s j := by
  -- the cases of `finish`: 1 no entry left, 2 the entry's value is fixed and gets recorded, 3 it is not
  fun_induction finish c s l with
  | case1 => rw [if_neg (fun h => nomatch h.2)]
  | case2 s k v rest h2 ih =>
    rw [ih, slotOf_recorded s k j _ h2]
    by_cases hkj : k = j
    · subst hkj; rw [if_pos rfl, if_neg (fun h => nomatch h.1), if_pos ⟨beq_iff_eq.mp h2, List.mem_cons_self ..⟩]
    · simp only [if_neg hkj, List.map_cons, List.mem_cons, Ne.symm hkj, false_or]
  | case3 s k v rest h2 ih =>
    rw [ih]
    by_cases hkj : j = k
    · subst hkj; rw [if_neg (fun h => h2 (beq_iff_eq.mpr h.1)), if_neg (fun h => h2 (beq_iff_eq.mpr h.1))]
    · simp only [List.map_cons, List.mem_cons, hkj, false_or]

theorem mem_addParsed (p : List (List Nat)) (n m : List Nat) : m ∈ addParsed p n ↔ m ∈ p ∨ m = n := by
  unfold addParsed; split
  · rename_i h
    exact ⟨Or.inl, fun hm => hm.elim id fun e => e ▸ List.contains_iff_mem.mp h⟩
  · rw [List.mem_append, List.mem_singleton]

theorem finish_parsed (c : Context) (s : AState) (l : List (Nat × List Nat)) (nm : List Nat) :
    nm ∈ (finish c s l).parsed ↔ nm ∈ s.parsed ∨ ∃ k, k ∈ l.map Prod.fst ∧ (slotOf s k).state = 2 ∧ (optOf c k).name = nm := by
  fun_induction finish c s l with
  | case1 => exact ⟨Or.inl, fun h => h.elim id fun ⟨_, h, _⟩ => nomatch h⟩
  | case2 s k v rest h2 ih =>
    rw [ih, withParsed_parsed, mem_addParsed]
    constructor
    · rintro ((hm | hm) | ⟨i, hi, hs, hn⟩)
      · exact Or.inl hm
      · exact Or.inr ⟨k, List.mem_cons_self .., beq_iff_eq.mp h2, hm.symm⟩
      · rw [slotOf_recorded s k i _ h2] at hs
        split at hs
        · cases hs
        · exact Or.inr ⟨i, List.mem_cons_of_mem _ hi, hs, hn⟩
    · rintro (hm | ⟨i, hi, hs, hn⟩)
      · exact Or.inl (Or.inl hm)
      · by_cases hik : k = i
        · subst hik; exact Or.inl (Or.inr hn.symm)
        · exact Or.inr ⟨i, (List.mem_cons.mp hi).resolve_left (Ne.symm hik), by rw [slotOf_recorded s k i _ h2, if_neg hik]; exact hs, hn⟩
  | case3 s k v rest h2 ih =>
    rw [ih]
    refine or_congr_right ⟨fun ⟨i, hi, hs, hn⟩ => ⟨i, List.mem_cons_of_mem _ hi, hs, hn⟩, fun ⟨i, hi, hs, hn⟩ => ⟨i, ?_, hs, hn⟩⟩
    exact (List.mem_cons.mp hi).resolve_left fun e => h2 (by rw [← show i = k from e, hs]; rfl)

/-- the value strings a source holds for option `k`, in order -/
def occ (vals : List (Nat × List Nat)) (k : Nat) : List (List Nat) := (vals.filter (fun e => e.1 == k)).map Prod.snd

@[simp] theorem occ_nil (k : Nat) : occ [] k = [] := rfl
theorem occ_cons_same (k : Nat) (v) (rest) : occ ((k, v) :: rest) k = v :: occ rest k := by simp [occ]
theorem occ_cons_ne (k j : Nat) (v) (rest) (h : k ≠ j) : occ ((k, v) :: rest) j = occ rest j := by simp [occ, h]
theorem occ_nil_iff (vals) (k : Nat) : occ vals k = [] ↔ k ∉ vals.map Prod.fst := by
  simp only [occ, List.map_eq_nil_iff, List.filter_eq_nil_iff, beq_iff_eq, List.mem_map, not_exists, not_and]

/-- the parser run over the occurrences; `none`: a second value for a non-composing option, or a refused string -/
def runK (o : OptSpec) : Slot → List (List Nat) → Option Slot
  | sl, [] => some sl
  | sl, v :: vs =>
    if o.composing = false ∧ sl.state = 2 then none
    else if (valueParse o sl v 2).1 then runK o (valueParse o sl v 2).2 vs else none

theorem runK_fixed (o : OptSpec) (sl fin : Slot) (l : List (List Nat)) (hne : l ≠ []) (h : runK o sl l = some fin) : fin.state = 2 := by
  fun_induction runK o sl l with
  | case1 => exact absurd rfl hne
  | case2 => cases h
  | case3 sl v vs _ hv ih =>
    cases vs with
    | nil => cases h; rw [valueParse_state, if_pos hv]
    | cons w ws => exact ih (List.cons_ne_nil _ _) h
  | case4 => cases h

theorem loop_slot (c : Context) (excl) (s : AState) (vals : List (Nat × List Nat)) (k : Nat) (hk : k < s.slots.length)
    (hi : ignored c excl k = false) (hp : (optOf c k).composing = true ∨ (optOf c k).name ∉ s.parsed)
    (hok : (assignLoop c excl s vals).2.2 = none) :
    runK (optOf c k) (slotOf s k) (occ vals k) = some (slotOf (assignLoop c excl s vals).1 k) := by
  fun_induction assignLoop c excl s vals with
  | case1 => rfl
  | case2 s k' v rest hi' _ ih =>
    rw [occ_cons_ne _ _ _ _ (fun e => by rw [e, hi] at hi'; cases hi')]; exact ih hk hp hok
  | case3 s k' v rest _ a h0 _ ih =>
    have := ih (by rw [assignOne_length]; exact hk) (by rw [assignOne_parsed]; exact hp) hok
    by_cases hkk : k' = k
    · subst hkk
      obtain ⟨h2, hv, e⟩ := assignOne_ok c s k' v hk hp (beq_iff_eq.mp h0)
      rw [e] at this
      rw [occ_cons_same, runK, if_neg h2, if_pos hv]; exact this
    · rw [occ_cons_ne _ _ _ _ hkk, ← assignOne_frame c s k' v k hkk]; exact this
  | case4 | case5 => cases hok

theorem source_noFixed (c : Context) (s : AState) (vals) (excl) (h : NoFixed s) : NoFixed (assignSource c s vals excl).1 := by
  intro j hj
  rw [assignSource, finish_slot] at hj
  split at hj
  · cases hj
  · rename_i hn
    exact (loop_fixed c excl s vals j hj).elim (h j) fun h2 => hn ⟨hj, h2⟩

theorem source_slot (c : Context) (s : AState) (vals) (excl) (k : Nat) (hk : k < s.slots.length) (hi : ignored c excl k = false)
    (hp : (optOf c k).composing = true ∨ (optOf c k).name ∉ s.parsed) (hok : (assignSource c s vals excl).2 = none) :
    ∃ sl, runK (optOf c k) (slotOf s k) (occ vals k) = some sl ∧ (slotOf (assignSource c s vals excl).1 k).val = sl.val ∧
      (occ vals k ≠ [] → (optOf c k).name ∈ (assignSource c s vals excl).1.parsed ∧ (slotOf (assignSource c s vals excl).1 k).state = 0) := by
  have hrun := loop_slot c excl s vals k hk hi hp hok
  refine ⟨_, hrun, ?_, fun hne => ?_⟩
  · rw [assignSource, finish_slot]; split <;> rfl
  · have hmem : k ∈ (assignLoop c excl s vals).2.1.map Prod.fst := by
      rw [(loop_passed c excl s vals).2 hok]
      exact Decidable.not_not.mp (mt (occ_nil_iff vals k).mpr hne)
    have hst := runK_fixed _ _ _ _ hne hrun
    exact ⟨(finish_parsed ..).mpr (Or.inr ⟨k, hmem, hst, rfl⟩), by rw [assignSource, finish_slot, if_pos ⟨hst, hmem⟩]⟩

/-- **C15 (single occurrence, first source that mentions the option)**: a non-composing option that no earlier source assigned
    and that the exclude set does not name, occurring exactly once with string `v` in a source passed without error, holds
    exactly what its parser produced for `v` (the implicit text for an empty string: `valueParse`), is recorded as parsed and
    is back in state unassigned. -/
theorem C15_single_occurrence (c : Context) (s : AState) (vals) (excl) (k : Nat) (v : List Nat)
    (hk : k < s.slots.length) (hnf : NoFixed s) (hc : (optOf c k).composing = false) (hp : (optOf c k).name ∉ s.parsed)
    (hi : ignored c excl k = false) (hocc : occ vals k = [v]) (hok : (assignSource c s vals excl).2 = none) :
    (valueParse (optOf c k) (slotOf s k) v 2).1 = true ∧
    slotOf (assignSource c s vals excl).1 k = { state := 0, val := (valueParse (optOf c k) (slotOf s k) v 2).2.val } ∧
    (optOf c k).name ∈ (assignSource c s vals excl).1.parsed := by
  obtain ⟨sl, hrun, hval, hne⟩ := source_slot c s vals excl k hk hi (Or.inr hp) hok
  obtain ⟨hm, hst⟩ := hne (by rw [hocc]; exact List.cons_ne_nil _ _)
  rw [hocc, runK, if_neg (fun e => hnf k e.2)] at hrun
  split at hrun
  · cases hrun
    exact ⟨‹_›, by rw [← hst, ← hval], hm⟩
  · cases hrun

/-- **C15 (composing options)**: a composing option receives ALL its values of a source passed without error, in order:
    its slot is the fold of its parser over them; if there was at least one it is recorded as parsed. -/
theorem C15_composing_all (c : Context) (s : AState) (vals) (excl) (k : Nat)
    (hk : k < s.slots.length) (hnf : NoFixed s) (hc : (optOf c k).composing = true) (hok : (assignSource c s vals excl).2 = none) :
    ∃ sl, runK (optOf c k) (slotOf s k) (occ vals k) = some sl ∧ (slotOf (assignSource c s vals excl).1 k).val = sl.val ∧
      (occ vals k ≠ [] → (optOf c k).name ∈ (assignSource c s vals excl).1.parsed ∧ (slotOf (assignSource c s vals excl).1 k).state = 0) :=
  source_slot c s vals excl k hk (by simp [ignored, hc]) (Or.inl hc) hok

/-- **C15 (first source wins)**: once an option is recorded as parsed, a later source cannot change it, whatever it holds
    for that option (and whether or not it ends in an error). -/
theorem C15_earlier_source_wins (c : Context) (s : AState) (vals) (excl) (k : Nat)
    (hnf : NoFixed s) (hc : (optOf c k).composing = false) (hp : (optOf c k).name ∈ s.parsed) :
    slotOf (assignSource c s vals excl).1 k = slotOf s k := by
  rw [assignSource, finish_slot, loop_frame c excl s vals k (Or.inr (Or.inr ⟨hc, hp⟩)), if_neg (fun e => hnf k e.1)]

/-- **C15 (parsed set)**: after a source — successful or not — the recorded names are the old ones plus exactly the names
    of the options whose value this source fixed (the entries passed before the error, if any). -/
theorem C15_parsed_exact (c : Context) (s : AState) (vals) (excl) (nm : List Nat) :
    nm ∈ (assignSource c s vals excl).1.parsed ↔
      nm ∈ s.parsed ∨ ∃ k, k ∈ (assignLoop c excl s vals).2.1.map Prod.fst ∧ (slotOf (assignLoop c excl s vals).1 k).state = 2 ∧ (optOf c k).name = nm := by
  rw [assignSource, finish_parsed, loop_parsed]

theorem parsed_of_frame (c : Context) (s : AState) (vals) (excl) (k : Nat) (hnf : NoFixed s)
    (hfr : slotOf (assignLoop c excl s vals).1 k = slotOf s k) (hm : (optOf c k).name ∈ (assignSource c s vals excl).1.parsed) :
    (optOf c k).name ∈ s.parsed ∨ ∃ j, j ≠ k ∧ (optOf c j).name = (optOf c k).name := by
  obtain hm | ⟨j, _, hs, hn⟩ := (C15_parsed_exact ..).mp hm
  · exact Or.inl hm
  · exact Or.inr ⟨j, fun e => hnf k (by rw [← hfr, ← e]; exact hs), hn⟩

/-- **C15 (exclude set)**: a non-composing option named by the exclude set is not changed by the source. -/
theorem C15_excluded_ignored (c : Context) (s : AState) (vals) (excl : List (List Nat)) (k : Nat)
    (hnf : NoFixed s) (hc : (optOf c k).composing = false) (hx : (optOf c k).name ∈ excl) :
    slotOf (assignSource c s vals (some excl)).1 k = slotOf s k ∧
    ((optOf c k).name ∈ (assignSource c s vals (some excl)).1.parsed → (optOf c k).name ∈ s.parsed ∨
      ∃ j, j ≠ k ∧ (optOf c j).name = (optOf c k).name) := by
  have hl := loop_frame c (some excl) s vals k (Or.inr (Or.inl (by simp [ignored, hc, hx])))
  exact ⟨by rw [assignSource, finish_slot, hl, if_neg (fun e => hnf k e.1)], parsed_of_frame c s vals _ k hnf hl⟩

/-- An option this source did not fix is not added to the parsed set: its name is recorded afterwards only if it was before or another
    option carries the same name (the context refuses duplicate names, C14). -/
theorem C15_parsed_only_received (c : Context) (s : AState) (vals) (excl) (k : Nat) (hnf : NoFixed s)
    (h0 : occ vals k = []) (hm : (optOf c k).name ∈ (assignSource c s vals excl).1.parsed) :
    (optOf c k).name ∈ s.parsed ∨ ∃ j, j ≠ k ∧ (optOf c j).name = (optOf c k).name :=
  parsed_of_frame c s vals excl k hnf (loop_frame c excl s vals k (Or.inl ((occ_nil_iff _ _).mp h0))) hm

/-- **C15 (two occurrences in one source)**: when the source reaches a second entry of a non-composing option whose first
    entry it accepted, it stops with `multiple_occurrences` naming the option and the second string. -/
theorem C15_duplicate_error (c : Context) (s : AState) (pre post) (excl) (k : Nat) (v : List Nat)
    (hk : k < s.slots.length) (hc : (optOf c k).composing = false) (hp : (optOf c k).name ∉ s.parsed)
    (hi : ignored c excl k = false) (hpre : (assignLoop c excl s pre).2.2 = none) (hocc : occ pre k ≠ []) :
    (assignSource c s (pre ++ (k, v) :: post) excl).2 = some (.multiple (optOf c k).name v) := by
  have hfix := runK_fixed _ _ _ _ hocc (loop_slot c excl s pre k hk hi (Or.inr hp) hpre)
  have h1 : (assignOne c (assignLoop c excl s pre).1 k v).2 = 1 := by
    rw [assignOne_active _ _ _ _ (Or.inr (loop_parsed c excl s pre ▸ hp)), if_pos ⟨hc, hfix⟩]
  rw [assignSource, loop_stop c excl s pre k v post hpre hi (by rw [h1]; decide), if_pos h1]

/-- **C15 (refused value)**: when the source reaches an entry whose string the option's parser refuses, it stops with
    `invalid_value` naming the option and the string. -/
theorem C15_invalid_error (c : Context) (s : AState) (pre post) (excl) (k : Nat) (v : List Nat)
    (hi : ignored c excl k = false) (hpre : (assignLoop c excl s pre).2.2 = none)
    (hp : (optOf c k).composing = true ∨ (optOf c k).name ∉ s.parsed)
    (h2 : ¬ ((optOf c k).composing = false ∧ (slotOf (assignLoop c excl s pre).1 k).state = 2))
    (hv : (valueParse (optOf c k) (slotOf (assignLoop c excl s pre).1 k) v 2).1 = false) :
    (assignSource c s (pre ++ (k, v) :: post) excl).2 = some (.invalid (optOf c k).name v) := by
  have hcode : (assignOne c (assignLoop c excl s pre).1 k v).2 = 2 := by
    rw [assignOne_active _ _ _ _ (loop_parsed c excl s pre ▸ hp), if_neg h2, hv]; rfl
  rw [assignSource, loop_stop c excl s pre k v post hpre hi (by rw [hcode]; decide), hcode]; rfl

/-- what `assignDefault` makes of one option's slot -/
def defaultOf (o : OptSpec) (parsed : List (List Nat)) (sl : Slot) : Slot :=
  if o.name ∈ parsed then sl else
  match o.dflt with
  | none => sl
  | some d => if sl.state = 1 then sl else (valueParse o sl d 1).2

theorem defaultOf_due {o : OptSpec} {parsed : List (List Nat)} {sl : Slot} {d : List Nat} (hn : o.name ∉ parsed) (hd : o.dflt = some d)
    (h1 : sl.state ≠ 1) : defaultOf o parsed sl = (valueParse o sl d 1).2 := by
  rw [defaultOf, if_neg hn, hd]; exact if_neg h1

theorem defaultOf_not_due {o : OptSpec} {parsed : List (List Nat)} {sl : Slot} (h : o.name ∈ parsed ∨ o.dflt = none ∨ sl.state = 1) :
    defaultOf o parsed sl = sl := by
  unfold defaultOf
  split
  · rfl
  · cases hd : o.dflt with
    | none => rfl
    | some d => exact if_pos (h.resolve_left ‹_› |>.resolve_left (by rw [hd]; exact Option.some_ne_none d))

theorem defaultsLoop_parsed (c : Context) (s : AState) (l : List OptSpec) (k : Nat) : (defaultsLoop c s l k).1.parsed = s.parsed := by
  -- the cases of `defaultsLoop`: 1 no option left, 2 recorded as parsed, 3 no default, 4 already defaulted, 5 default accepted, 6 default refused
  fun_induction defaultsLoop c s l k with
  | case1 | case6 => rfl
  | case2 _ _ _ _ _ ih | case3 _ _ _ _ _ _ ih | case4 _ _ _ _ _ _ _ _ ih | case5 _ _ _ _ _ _ _ _ _ _ ih => exact ih

theorem noFixed_setDefault (s : AState) (o : OptSpec) (k : Nat) (d : List Nat) (h : NoFixed s) :
    NoFixed (setSlot s k (valueParse o (slotOf s k) d 1).2) := by
  intro j hj
  rw [slotOf_setSlot] at hj
  split at hj
  · rw [valueParse_state] at hj
    split at hj
    · cases hj
    · exact h k hj
  · exact h j hj

theorem defaults_noFixed (c : Context) (s : AState) (h : NoFixed s) : NoFixed (assignDefaults c s).1 := by
  unfold assignDefaults
  fun_induction defaultsLoop c s c.opts 0 with
  | case1 => exact h
  | case2 _ _ _ _ _ ih | case3 _ _ _ _ _ _ ih | case4 _ _ _ _ _ _ _ _ ih => exact ih h
  | case5 _ _ _ _ _ _ _ _ _ _ ih => exact ih (noFixed_setDefault _ _ _ _ h)
  | case6 => exact noFixed_setDefault _ _ _ _ h

theorem defaultsLoop_frame (c : Context) (s : AState) (l : List OptSpec) (k j : Nat) (h : ∀ o, (o, j) ∈ l.zipIdx k → o.name ∈ s.parsed) :
    slotOf (defaultsLoop c s l k).1 j = slotOf s j := by
  fun_induction defaultsLoop c s l k with
  | case1 => rfl
  | case2 _ _ _ _ _ ih | case3 _ _ _ _ _ _ ih | case4 _ _ _ _ _ _ _ _ ih => exact ih fun o hm => h o (List.mem_cons_of_mem _ hm)
  | case5 s o _ k hn _ _ _ _ _ ih =>
    have hkj : k ≠ j := fun e => hn (List.contains_iff_mem.mpr (h o (e ▸ List.mem_cons_self ..)))
    exact (ih fun o hm => h o (List.mem_cons_of_mem _ hm)).trans (slotOf_setSlot_ne _ _ _ _ hkj)
  | case6 s o _ k hn =>
    exact slotOf_setSlot_ne _ _ _ _ fun e => hn (List.contains_iff_mem.mpr (h o (e ▸ List.mem_cons_self ..)))

theorem defaultsLoop_ok (c : Context) (s : AState) (l : List OptSpec) (k : Nat) (hok : (defaultsLoop c s l k).2 = none)
    (o : OptSpec) (j : Nat) (hm : (o, j) ∈ l.zipIdx k) (hj : j < s.slots.length) :
    slotOf (defaultsLoop c s l k).1 j = defaultOf o s.parsed (slotOf s j) ∧
    (o.name ∉ s.parsed → ∀ d, o.dflt = some d → (slotOf s j).state ≠ 1 → (valueParse o (slotOf s j) d 1).1 = true) := by
  -- the rounds behind the one of `j` leave its slot alone
  have later : ∀ s' rest, slotOf (defaultsLoop c s' rest (j + 1)).1 j = slotOf s' j := fun s' rest =>
    defaultsLoop_frame c s' rest (j + 1) j fun _ hm => absurd (List.le_snd_of_mem_zipIdx hm) (Nat.not_succ_le_self j)
  fun_induction defaultsLoop c s l k with
  | case1 => cases hm
  | case2 s o' _ k h ih =>
    obtain e | hm := List.mem_cons.mp hm
    · cases e; exact ⟨(later ..).trans (defaultOf_not_due (Or.inl (List.contains_iff_mem.mp h))).symm, fun hn => absurd (List.contains_iff_mem.mp h) hn⟩
    · exact ih hok hm hj
  | case3 s o' _ k _ hd ih =>
    obtain e | hm := List.mem_cons.mp hm
    · cases e; exact ⟨(later ..).trans (defaultOf_not_due (Or.inr (Or.inl hd))).symm, fun _ d hd' => by rw [hd] at hd'; cases hd'⟩
    · exact ih hok hm hj
  | case4 s o' _ k _ d hd h1 ih =>
    obtain e | hm := List.mem_cons.mp hm
    · cases e; exact ⟨(later ..).trans (defaultOf_not_due (Or.inr (Or.inr (beq_iff_eq.mp h1)))).symm, fun _ _ _ h => absurd (beq_iff_eq.mp h1) h⟩
    · exact ih hok hm hj
  | case5 s o' _ k hn d hd h1 _ hv ih =>
    obtain e | hm := List.mem_cons.mp hm
    · cases e
      refine ⟨((later ..).trans (slotOf_setSlot_same _ _ _ hj)).trans (defaultOf_due (fun h => hn (List.contains_iff_mem.mpr h)) hd (fun h => h1 (beq_iff_eq.mpr h))).symm,
        fun _ d' hd' _ => ?_⟩
      cases hd.symm.trans hd'; exact hv
    · have := ih hok hm (by rw [setSlot_length]; exact hj)
      rwa [setSlot_parsed, slotOf_setSlot_ne _ _ _ _ (Nat.ne_of_lt (List.le_snd_of_mem_zipIdx hm))] at this
  | case6 => cases hok

theorem mem_zipIdx_opts (c : Context) (o : OptSpec) (k : Nat) : (o, k) ∈ c.opts.zipIdx ↔ k < c.opts.length ∧ optOf c k = o := by
  rw [List.mk_mem_zipIdx_iff_getElem?, List.getElem?_eq_some_iff]
  exact ⟨fun ⟨hk, e⟩ => ⟨hk, by simp [optOf, hk, e]⟩, fun ⟨hk, e⟩ => ⟨hk, by simpa [optOf, hk] using e⟩⟩

/-- **C15 (defaults)**: when the defaults are applied without error, every option of the context that is not recorded as
    parsed and has a default (and is not already defaulted) holds what its parser produced for the default string — which
    the parser accepted — and is in state `defaulted`; every other option (parsed by some source, no default, or already
    defaulted) and the parsed set are untouched. -/
theorem C15_defaults (c : Context) (s : AState) (hwf : s.slots.length = c.opts.length) (hok : (assignDefaults c s).2 = none) (k : Nat) (hk : k < c.opts.length) :
    slotOf (assignDefaults c s).1 k = defaultOf (optOf c k) s.parsed (slotOf s k) ∧
    ((optOf c k).name ∉ s.parsed → ∀ d, (optOf c k).dflt = some d → (slotOf s k).state ≠ 1 →
      (valueParse (optOf c k) (slotOf s k) d 1).1 = true ∧ (slotOf (assignDefaults c s).1 k).state = 1) ∧
    (assignDefaults c s).1.parsed = s.parsed := by
  obtain ⟨hsl, hacc⟩ := defaultsLoop_ok c s c.opts 0 hok _ k ((mem_zipIdx_opts c _ k).mpr ⟨hk, rfl⟩) (hwf ▸ hk)
  refine ⟨hsl, fun hn d hd h1 => ⟨hacc hn d hd h1, ?_⟩, defaultsLoop_parsed ..⟩
  rw [assignDefaults, hsl, defaultOf_due hn hd h1, valueParse_state, if_pos (hacc hn d hd h1)]

/-- **C15 (state machine)**: whatever sequence of sources and default applications runs — with or without errors —
    no value is left in state `fixed` afterwards, so the duplicate check of every source starts clean. -/
theorem C15_no_fixed (c : Context) (s : AState) (steps : List Step) (h : NoFixed s) :
    NoFixed (steps.foldl (fun st x => (step c st x).1) s) := by
  induction steps generalizing s with
  | nil => exact h
  | cons x rest ih =>
    apply ih
    cases x with
    | source vals excl => exact source_noFixed c s vals excl h
    | defaults => exact defaults_noFixed c s h

theorem init_noFixed (c : Context) : NoFixed (AState.init c) := by
  intro j hj
  simp only [slotOf, AState.init, List.getD, List.getElem?_map] at hj
  cases h : c.opts[j]? <;> rw [h] at hj <;> cases hj

theorem step_parsed_mono (c : Context) (s : AState) (x : Step) (nm : List Nat) (h : nm ∈ s.parsed) : nm ∈ (step c s x).1.parsed := by
  cases x with
  | source vals excl => exact (C15_parsed_exact c s vals excl nm).mpr (Or.inl h)
  | defaults => exact (defaultsLoop_parsed ..).symm ▸ h

theorem defaults_parsed_frame (c : Context) (s : AState) (k : Nat) (hp : (optOf c k).name ∈ s.parsed) :
    slotOf (assignDefaults c s).1 k = slotOf s k :=
  defaultsLoop_frame c s c.opts 0 k fun o hm => ((mem_zipIdx_opts c o k).mp hm).2 ▸ hp

/-- **C15 (first source wins, for good)**: once a non-composing option is recorded as parsed, NO later sequence of sources
    (any contents, any exclude sets, failing or not) and default applications changes its value. -/
theorem C15_first_wins_forever (c : Context) (s : AState) (steps : List Step) (k : Nat) (hk : k < c.opts.length)
    (hnf : NoFixed s) (hc : (optOf c k).composing = false) (hp : (optOf c k).name ∈ s.parsed) :
    slotOf (steps.foldl (fun st x => (step c st x).1) s) k = slotOf s k := by
  induction steps generalizing s with
  | nil => rfl
  | cons x rest ih =>
    simp only [List.foldl_cons]
    have hnf' : NoFixed (step c s x).1 := C15_no_fixed c s [x] hnf
    rw [ih _ hnf' (step_parsed_mono c s x _ hp)]
    cases x with
    | source vals excl => exact C15_earlier_source_wins c s vals excl k hnf hc hp
    | defaults => exact defaults_parsed_frame c s k hp

/-- **C15 (implicit value)**: an empty string given to an option with an implicit value is parsed as the implicit text
    ("1" when none was registered, as for flags). -/
theorem C15_implicit (o : OptSpec) (sl : Slot) (st : Nat) (h : o.implicit = true) :
    valueParse o sl [] st = ((doParse o.kind sl.val (implicitText o)).1,
      { state := if (doParse o.kind sl.val (implicitText o)).1 then st else sl.state, val := (doParse o.kind sl.val (implicitText o)).2 }) := by
  simp [valueParse, h]

/-! ### the hypotheses are satisfiable, and the model runs -/
def exCtx : Context := { opts := [{ name := [110], kind := 0, dflt := some [52, 50] }, { name := [118], kind := 3, composing := true }, { name := [102], kind := 2, flag := true, implicit := true }] }
example : NoFixed (AState.init exCtx) := init_noFixed _
-- two sources and defaults: n=12 wins over n=5, v gets 1,2 then 3, f gets its implicit "1"
example : ((([Step.source [(0, [49, 50]), (1, [49, 44, 50]), (2, [])] none, Step.source [(0, [53]), (1, [51])] none, Step.defaults].foldl
    (fun st x => (step exCtx st x).1) (AState.init exCtx)).slots.map (·.val)) = [.int 12, .vec [1, 2, 3], .flag 1]) := by decide +kernel
example : (assignSource exCtx (AState.init exCtx) [(0, [49]), (0, [50])] none).2 = some (.multiple [110] [50]) := by decide +kernel
example : (assignSource exCtx (AState.init exCtx) [(1, [49]), (0, [120])] none).2 = some (.invalid [110] [120]) := by decide +kernel
example : (assignDefaults exCtx (AState.init exCtx)).1.slots.map (·.val) = [.int 42, .vec [], .flag 2] := by decide +kernel
end PotasscoVerif.C15
