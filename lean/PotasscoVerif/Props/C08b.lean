/-
  C08 (continued) — what the smodels reader (conversions switched on) makes of the symbol table the converter writes.

  `Entry`: the three kinds of symbol-table entries in structured form — an ordinary symbol, the helper `_heuristic(name,mod,bias,prio)`
  on a condition atom, the helper `_edge(s,t)` on a condition atom.  `specStep` says what each contributes WITHOUT any parsing:
  an ordinary symbol is shown and remembered under its name; a heuristic helper is queued with its fields (and shown only if
  filtering is off); an edge helper gives an acyclicity edge between the nodes of its two node names, numbered by first occurrence.
  The reader's handling of the entries' TEXT is exactly that (`C08_symbol_spec`, `C08_symbols_fold`, `C08_table_read`); what becomes
  of the queued heuristics at the end of the table is `C08_heuristics_resolved`.
-/
import PotasscoVerif.Props.C08
import PotasscoVerif.Props.C07b
namespace PotasscoVerif.C08
open PotasscoVerif PotasscoVerif.SmodelsSym PotasscoVerif.AspifOut PotasscoVerif.Decimal

inductive Entry where
  | plain (x : Nat) (name : List Nat)
  | heu (x : Nat) (target : List Nat) (ty : Nat) (bias : Int) (prio : Nat)
  | edge (x : Nat) (a b : Int)
deriving Repr

def Entry.atom : Entry → Nat
  | .plain x _ => x | .heu x .. => x | .edge x .. => x
/-- the name in the symbol table -/
def Entry.text : Entry → List Nat
  | .plain _ n => n
  | .heu _ tg ty b p => heuText tg ty b p
  | .edge _ a b => edgeText a b

def PlainName (n : List Nat) : Prop :=
  (s "_acyc_").isPrefixOf n = false ∧ (s "_edge(").isPrefixOf n = false ∧ (s "_heuristic(").isPrefixOf n = false

def Entry.ok : Entry → Prop
  | .plain _ n => PlainName n
  | .heu _ tg ty b p => ArgSafe tg ∧ tg ≠ [] ∧ ty < 6 ∧ (-2147483648 ≤ b ∧ b ≤ 2147483647) ∧ p ≤ 2147483647
  | .edge .. => True

def shown (flt : Bool) (e : Entry) : List Call :=
  match e with
  | .plain x n => [.output n [(x : Int)]]
  | _ => if flt then [] else [.output e.text [(e.atom : Int)]]

def specStep (flt : Bool) (st : Tabs × List Call × List Heu) (e : Entry) : Tabs × List Call × List Heu :=
  match e with
  | .plain x n => (remember st.1 n x, st.2.1 ++ shown flt e, st.2.2)
  | .heu x tg ty b p => (remember st.1 e.text x, st.2.1 ++ shown flt e, st.2.2 ++ [{ atom := tg, type := ty, bias := b, prio := p, cond := x }])
  | .edge x a b =>
    let n0 := st.1.addNode (printInt a)
    let n1 := n0.1.addNode (printInt b)
    (remember n1.1 e.text x, st.2.1 ++ [.acycEdge (n0.2 : Int) (n1.2 : Int) [(x : Int)]] ++ shown flt e, st.2.2)

theorem edgePred_plain (n : List Nat) (h1 : (s "_acyc_").isPrefixOf n = false) (h2 : (s "_edge(").isPrefixOf n = false) : edgePred n = (0, [], [], n) := by
  unfold edgePred
  simp only [eat_false _ _ h1, eat_false _ _ h2, Bool.not_false, ↓reduceIte, bind, Option.bind]

theorem domHeuPred_plain (n : List Nat) (h : (s "_heuristic(").isPrefixOf n = false) : (domHeuPred n).1 = 0 := by
  unfold domHeuPred
  simp only [eat_false _ _ h, Bool.not_false, ↓reduceIte]

theorem heuText_prefixes (tg : List Nat) (ty : Nat) (b : Int) (p : Nat) :
    (s "_acyc_").isPrefixOf (heuText tg ty b p) = false ∧ (s "_edge(").isPrefixOf (heuText tg ty b p) = false := by
  simp only [heuText, List.append_assoc]
  exact (prefixes_distinct _).2

/-- **C08 (one symbol)**: with both conversions on, the reader's handling of the text of an entry is the entry's contribution -/
theorem C08_symbol_spec (o : Opts) (hE : o.cEdge = true) (hH : o.cHeu = true) (t : Tabs) (calls : List Call) (doms : List Heu) (e : Entry) (he : e.ok) :
    let r := symbol o t e.atom e.text doms
    (r.1, calls ++ r.2.1, r.2.2) = specStep o.filter (t, calls, doms) e := by
  cases e with
  | plain x n =>
    obtain ⟨h1, h2, h3⟩ := he
    simp only [symbol, record_eq, recognise, hE, hH, ↓reduceIte, Bool.true_and, edgePred_plain n h1 h2, Entry.text, Entry.atom, domHeuPred_plain n h3,
      specStep, shown, Int.lt_irrefl, decide_false, Bool.false_eq_true, List.nil_append]
  | heu x tg ty b p =>
    obtain ⟨h1, h2, h3, h4, h5⟩ := he
    obtain ⟨p1, p2⟩ := heuText_prefixes tg ty b p
    simp only [symbol, record_eq, recognise, hE, hH, ↓reduceIte, Bool.true_and, edgePred_plain _ p1 p2, Entry.text, Entry.atom,
      C08_heuristic_text_roundtrip tg h1 h2 ty h3 b h4 p h5, specStep, shown, Int.lt_irrefl, decide_false, Bool.false_eq_true, Int.zero_lt_one,
      decide_true, List.nil_append]
  | edge x a b =>
    simp only [symbol, record_eq, recognise, hE, ↓reduceIte, Bool.true_and, Entry.text, Entry.atom, C08_edge_text_roundtrip a b, specStep, shown,
      Int.zero_lt_one, decide_true, List.append_assoc]

/-- **C08 (the table)**: folding the reader's symbol handling over the texts of a list of entries is folding their contributions -/
theorem C08_symbols_fold (o : Opts) (hE : o.cEdge = true) (hH : o.cHeu = true) (es : List Entry) (hok : ∀ e ∈ es, e.ok) (st : Tabs × List Call × List Heu) :
    es.foldl (fun st e => let r := symbol o st.1 e.atom e.text st.2.2; (r.1, st.2.1 ++ r.2.1, r.2.2)) st = es.foldl (specStep o.filter) st := by
  induction es generalizing st with
  | nil => rfl
  | cons e r ih =>
    obtain ⟨he, hok⟩ := List.forall_mem_cons.mp hok
    rw [List.foldl_cons, List.foldl_cons, ← C08_symbol_spec o hE hH st.1 st.2.1 st.2.2 e he]
    exact ih hok _

/-- the heuristic directives delivered at the end of the symbol table -/
def resolve (t : Tabs) (doms : List Heu) : List Call :=
  doms.filterMap (fun h => let x := t.findAtom h.atom; if x != 0 then some (Call.heuristic x h.type h.bias h.prio [(h.cond : Int)]) else none)

/-- **C08 (heuristics)**: a queued heuristic whose target name is recorded in the table under atom `x ≠ 0` becomes a heuristic directive on `x`
    with the same modifier, bias, priority and its condition atom; one whose target name is not in the table is dropped -/
theorem C08_heuristics_resolved (t : Tabs) (doms : List Heu) (c : Call) :
    c ∈ resolve t doms ↔ ∃ h ∈ doms, t.findAtom h.atom ≠ 0 ∧ c = .heuristic (t.findAtom h.atom) h.type h.bias h.prio [(h.cond : Int)] := by
  unfold resolve
  simp only [List.mem_filterMap]
  refine exists_congr fun h => and_congr_right fun _ => ?_
  split
  · rename_i hx; exact ⟨fun e => ⟨bne_iff_ne.mp hx, (Option.some.inj e).symm⟩, fun e => congrArg some e.2.symm⟩
  · rename_i hx; exact ⟨nofun, fun e => absurd (bne_iff_ne.mpr e.1) hx⟩

/-- the name table finds the FIRST atom recorded under a name -/
theorem findAtom_remember (t : Tabs) (m : List (List Nat × Nat)) (ht : t.atoms = some m) (name : List Nat) (x : Nat) (n : List Nat) :
    (remember t name x).findAtom n = if m.any (fun p => p.1 == n) then t.findAtom n else if name == n then x else 0 := by
  unfold remember Tabs.findAtom
  simp only [ht, ← List.isSome_find?]
  cases hf : m.find? (fun p => p.1 == n) with
  | some q => split <;> simp [hf, List.find?_append]
  | none =>
    by_cases hnn : name = n
    · subst hnn; simp [hf, List.find?_append]
    · split <;> simp [hf, List.find?_append, hnn]

open PotasscoVerif.CharStream PotasscoVerif.AspifIn PotasscoVerif.AspifLang
open PotasscoVerif.C07 (NameOk nameLoop_complete hAtomMax)
open PotasscoVerif.C03 (IsEol numN_pos)

/-- the text of a symbol table (any layout of the atom numbers, one blank before the name, LF or CR LF behind it, `0` at the end) and the
    (atom, name) pairs it lists -/
inductive SymsE : Bool → List Nat → List (Nat × List Nat) → Prop
  | done {lead : Bool} {w : List Nat} : numN true lead Gen.atomMax w 0 → SymsE lead w []
  | sym {lead : Bool} {w1 nm eol w2 : List Nat} {x : Nat} {l : List (Nat × List Nat)} : numN true lead Gen.atomMax w1 x → x ≠ 0 → NameOk nm →
      IsEol true eol → SymsE false w2 l → SymsE lead (w1 ++ ([32] ++ (nm ++ (eol ++ w2)))) ((x, nm) :: l)

attribute [local irreducible] AspifIn.posMax in
theorem symbolsLoopO_zero (o : Opts) (a : AS) (t : Tabs) (acc : List Call) (d : List Heu) : symbolsLoop o 0 a t acc d = (t, acc, d, .error a.line) := rfl

theorem symbolsLoopO_complete (o : Opts) : ∀ (lead : Bool) (w : List Nat) (l : List (Nat × List Nat)), SymsE lead w l →
    ∀ (f : Nat) (a : AS) (t : Tabs) (acc : List Call) (d : List Heu) (k : List Nat), w.length < f → a.rest = w ++ k → NDS k →
    ∃ a', symbolsLoop o f a t acc d =
        ((l.foldl (fun st p => let r := symbol o st.1 p.1 p.2 st.2.2; (r.1, st.2.1 ++ r.2.1, r.2.2)) (t, acc, d)).1,
         (l.foldl (fun st p => let r := symbol o st.1 p.1 p.2 st.2.2; (r.1, st.2.1 ++ r.2.1, r.2.2)) (t, acc, d)).2.1,
         (l.foldl (fun st p => let r := symbol o st.1 p.1 p.2 st.2.2; (r.1, st.2.1 ++ r.2.1, r.2.2)) (t, acc, d)).2.2, .ok a') ∧ a'.rest = k := by
  intro lead w l hd f
  induction f generalizing lead w l with
  | zero => intro a t acc d k hf; omega
  | succ f ih =>
    intro a t acc d k hf hr hk
    rw [C04.symbolsLoop_succ]
    cases hd with
    | done hl =>
      obtain ⟨a1, e1, r1⟩ := posMax_complete lead Gen.atomMax hAtomMax w 0 a k hl hr hk
      exact ⟨a1, by rw [e1]; simp, r1⟩
    | @sym _ w1 nm eol w2 x l hl h0 hnm he hrest =>
      obtain ⟨a1, a3, e1, e3, r3⟩ := C07.symEntry_complete hl hnm he (r := w2 ++ k) (by rw [hr]; simp only [List.append_assoc])
      have hlen := numN_pos hl
      obtain ⟨a4, e4, r4⟩ := ih false w2 l hrest a3 (symbol o t x nm d).1 (acc ++ (symbol o t x nm d).2.1) (symbol o t x nm d).2.2 k
        (by simp only [List.length_append] at hf; omega) r3 hk
      refine ⟨a4, ?_, r4⟩
      rw [e1]
      simp only [h0, ↓reduceIte, e3]
      rw [e4]
      rfl

/-- **C08 (reading the converter's symbol table)**: for the text of a symbol table whose entries are ordinary symbols and the helper names the
    converter writes, the reader (both conversions on) delivers exactly the contributions (`specStep`) of the entries -/
theorem C08_table_read (o : Opts) (hE : o.cEdge = true) (hH : o.cHeu = true) (es : List Entry) (hok : ∀ e ∈ es, e.ok) (lead : Bool) (w : List Nat)
    (hw : SymsE lead w (es.map (fun e => (e.atom, e.text)))) (a : AS) (t : Tabs) (k : List Nat) (hr : a.rest = w ++ k) (hk : NDS k) :
    ∃ a', symbolsLoop o (a.rest.length + 1) a t [] [] =
      ((es.foldl (specStep o.filter) (t, [], [])).1, (es.foldl (specStep o.filter) (t, [], [])).2.1, (es.foldl (specStep o.filter) (t, [], [])).2.2, .ok a') ∧ a'.rest = k := by
  obtain ⟨a', e, r⟩ := symbolsLoopO_complete o lead w _ hw (a.rest.length + 1) a t [] [] k (by rw [hr, List.length_append]; omega) hr hk
  refine ⟨a', ?_, r⟩
  rw [e, List.foldl_map, C08_symbols_fold o hE hH es hok]

/-! non-vacuity: the table `1 a␤2 _heuristic(a,level,1,2)␤3 _edge(0,1)␤0` with filtering -/
def exTable : List Entry := [.plain 1 [97], .heu 2 [97] 0 1 2, .edge 3 0 1]
example : ∀ e ∈ exTable, e.ok := by
  intro e he
  simp only [exTable, List.mem_cons, List.not_mem_nil, or_false] at he
  rcases he with rfl | rfl | rfl
  · show _ ∧ _ ∧ _; decide +kernel
  · exact ⟨by intro c hc; simp at hc; subst hc; decide, by simp, by decide, by decide, by decide⟩
  · trivial
def exTableText : List Nat := [49, 32, 97, 10] ++ ([50, 32] ++ heuText [97] 0 1 2 ++ [10]) ++ ([51, 32] ++ edgeText 0 1 ++ [10]) ++ [48, 10]
example : (symbols { ext := true, cEdge := true, cHeu := true, filter := true } false {} (AS.init exTableText)).2.1 =
    [.output [97] [1], .acycEdge 0 1 [3], .heuristic 1 0 1 2 [2]] := by decide +kernel
example : resolve (exTable.foldl (specStep true) ({ atoms := some [] }, [], [])).1 (exTable.foldl (specStep true) ({ atoms := some [] }, [], [])).2.2 = [.heuristic 1 0 1 2 [2]] := by decide +kernel

end PotasscoVerif.C08
