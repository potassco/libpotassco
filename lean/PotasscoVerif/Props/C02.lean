/-
  C02 — aspif → smodels conversion: the atom map and the minimize rewriting.
  Theorems about Model/Convert.lean (tied to src/convert.cpp by the `cv` correspondence).
-/
import PotasscoVerif.Model.Convert
namespace PotasscoVerif.C02
open PotasscoVerif PotasscoVerif.Convert

structure A where
  ids  : List (Nat × Nat)
  next : Nat
  aux  : List Nat
deriving DecidableEq

def abs (c : CS) : A := { ids := c.atoms.map (fun p => (p.1, p.2.smId)), next := c.next, aux := c.aux }

def img (c : CS) (a : Nat) : Option Nat := (c.find a).map (·.smId)

theorem img_abs (c : CS) (a : Nat) : img c a = ((abs c).ids.find? (fun p => p.1 == a)).map (·.2) := by
  unfold img CS.find abs
  simp only [List.find?_map, Option.map_map]
  congr 1

inductive Steps : A → A → Prop where
  | refl (x : A) : Steps x x
  | mapNew (x : A) (a : Nat) (h : ∀ p ∈ x.ids, p.1 ≠ a) (y : A) (r : Steps { x with ids := x.ids ++ [(a, x.next)], next := x.next + 1 } y) : Steps x y
  | newAux (x : A) (y : A) (r : Steps { x with next := x.next + 1, aux := x.aux ++ [x.next] } y) : Steps x y

theorem Steps.trans {x y z : A} (h1 : Steps x y) (h2 : Steps y z) : Steps x z := by
  induction h1 with
  | refl => exact h2
  | mapNew x a h y _ ih => exact .mapNew x a h z (ih h2)
  | newAux x y _ ih => exact .newAux x z (ih h2)

structure Inv (x : A) : Prop where
  keys : (x.ids.map (·.1)).Nodup
  imgs : (x.ids.map (·.2)).Nodup
  auxs : x.aux.Nodup
  disj : ∀ n ∈ x.ids.map (·.2), n ∉ x.aux
  rng  : (∀ n ∈ x.ids.map (·.2), 2 ≤ n ∧ n < x.next) ∧ (∀ n ∈ x.aux, 2 ≤ n ∧ n < x.next)
  nxt  : 2 ≤ x.next

theorem inv_init : Inv { ids := [], next := 2, aux := [] } :=
  ⟨by simp, by simp, by simp, by simp, ⟨by simp, by simp⟩, Nat.le_refl 2⟩

theorem nodup_snoc {l : List Nat} {a : Nat} (h : l.Nodup) (ha : a ∉ l) : (l ++ [a]).Nodup :=
  List.nodup_append.mpr ⟨h, List.nodup_cons.mpr ⟨List.not_mem_nil, List.nodup_nil⟩, fun _ hb _ hc e => ha (List.mem_singleton.mp hc ▸ e ▸ hb)⟩

theorem Inv.mapNew {x : A} (hi : Inv x) (a : Nat) (hnew : ∀ p ∈ x.ids, p.1 ≠ a) :
    Inv { x with ids := x.ids ++ [(a, x.next)], next := x.next + 1 } := by
  have h2 := hi.nxt
  have mem : ∀ n ∈ (x.ids ++ [(a, x.next)]).map (·.2), n ∈ x.ids.map (·.2) ∨ n = x.next := fun n hn => by
    rw [List.map_append, List.mem_append] at hn; exact hn.imp_right List.mem_singleton.mp
  refine ⟨?_, ?_, hi.auxs, fun n hn => ?_,
    ⟨fun n hn => ?_, fun n hn => ⟨(hi.rng.2 n hn).1, Nat.lt_succ_of_lt (hi.rng.2 n hn).2⟩⟩, Nat.le_succ_of_le h2⟩
  · rw [List.map_append]
    exact nodup_snoc hi.keys fun h => by obtain ⟨p, hp, e⟩ := List.mem_map.mp h; exact hnew p hp e
  · rw [List.map_append]
    exact nodup_snoc hi.imgs fun h => Nat.lt_irrefl _ (hi.rng.1 _ h).2
  · rcases mem n hn with hn | rfl
    · exact hi.disj n hn
    · exact fun hm => Nat.lt_irrefl _ (hi.rng.2 _ hm).2
  · rcases mem n hn with hn | rfl
    · exact ⟨(hi.rng.1 n hn).1, Nat.lt_succ_of_lt (hi.rng.1 n hn).2⟩
    · exact ⟨h2, Nat.lt_succ_self _⟩

theorem Inv.newAux {x : A} (hi : Inv x) : Inv { x with next := x.next + 1, aux := x.aux ++ [x.next] } := by
  have h2 := hi.nxt
  refine ⟨hi.keys, hi.imgs, nodup_snoc hi.auxs fun h => Nat.lt_irrefl _ (hi.rng.2 _ h).2, fun n hn hm => ?_,
    ⟨fun n hn => ⟨(hi.rng.1 n hn).1, Nat.lt_succ_of_lt (hi.rng.1 n hn).2⟩, fun n hn => ?_⟩, Nat.le_succ_of_le h2⟩
  · rcases List.mem_append.mp hm with hm | hm
    · exact hi.disj n hn hm
    · obtain rfl := List.mem_singleton.mp hm; exact Nat.lt_irrefl _ (hi.rng.1 _ hn).2
  · rcases List.mem_append.mp hn with hn | hn
    · exact ⟨(hi.rng.2 n hn).1, Nat.lt_succ_of_lt (hi.rng.2 n hn).2⟩
    · obtain rfl := List.mem_singleton.mp hn; exact ⟨h2, Nat.lt_succ_self _⟩

theorem Steps.mono {x y : A} (h : Steps x y) : (∀ p ∈ x.ids, p ∈ y.ids) ∧ (∀ n ∈ x.aux, n ∈ y.aux) := by
  induction h with
  | refl => exact ⟨fun _ h => h, fun _ h => h⟩
  | mapNew x a _ y _ ih => exact ⟨fun p hp => ih.1 p (List.mem_append_left _ hp), ih.2⟩
  | newAux x y _ ih => exact ⟨ih.1, fun n hn => ih.2 n (List.mem_append_left _ hn)⟩

theorem Steps.inv {x y : A} (h : Steps x y) (hi : Inv x) : Inv y := by
  induction h with
  | refl => exact hi
  | mapNew x a hnew y _ ih => exact ih (hi.mapNew a hnew)
  | newAux x y _ ih => exact ih hi.newAux

@[simp] theorem abs_emit (c : CS) (x : Call) : abs (c.emit x) = abs c := rfl
@[simp] theorem abs_addOutput (c : CS) (a : Nat) (n : List Nat) (h : Bool) : abs (c.addOutput a n h) = abs c := rfl

/-- `updAtom` only ever changes the flags of an entry -/
theorem abs_updAtom (c : CS) (a : Nat) (h s : CAtom → Bool) (e : CAtom → Nat) :
    abs (c.updAtom a fun x => ⟨x.smId, h x, s x, e x⟩) = abs c := by
  unfold abs CS.updAtom
  simp only [List.map_map]
  congr 1
  apply List.map_congr_left
  intro p _
  simp only [Function.comp]
  split <;> rfl

theorem find_none_keys (c : CS) (a : Nat) (h : c.find a = none) : ∀ p ∈ (abs c).ids, p.1 ≠ a := by
  intro p hp e
  unfold CS.find at h
  simp only [Option.map_eq_none_iff, List.find?_eq_none] at h
  simp only [abs, List.mem_map] at hp
  obtain ⟨q, hq, rfl⟩ := hp
  exact h q hq (by simpa using e)

theorem mapAtom_steps (c : CS) (a : Nat) : Steps (abs c) (abs (c.mapAtom a).1) := by
  unfold CS.mapAtom
  cases h : c.find a with
  | some x => exact .refl _
  | none => exact .mapNew _ a (find_none_keys c a h) _ (by simp only [abs, List.map_append, List.map_cons, List.map_nil]; exact .refl _)

theorem mapLit_steps (c : CS) (l : Int) : Steps (abs c) (abs (c.mapLit l).1) := mapAtom_steps c _

theorem mapLits_steps (c : CS) (ls : List Int) (acc : List Int) : Steps (abs c) (abs (c.mapLits ls acc).1) := by
  induction ls generalizing c acc with
  | nil => exact .refl _
  | cons l r ih => exact (mapLit_steps c l).trans (ih _ _)

theorem mapWLits_fst (c : CS) (ls : List (Int × Int)) (acc : List (Int × Int)) (acc' : List Int) :
    (c.mapWLits ls acc).1 = (c.mapLits (ls.map (·.1)) acc').1 := by
  induction ls generalizing c acc acc' with
  | nil => rfl
  | cons p r ih => exact ih _ _ _

theorem mapWLits_steps (c : CS) (ls : List (Int × Int)) (acc : List (Int × Int)) : Steps (abs c) (abs (c.mapWLits ls acc).1) :=
  mapWLits_fst c ls acc [] ▸ mapLits_steps c _ []

theorem mapHeadAtoms_steps (c : CS) (h : List Nat) (acc : List Nat) : Steps (abs c) (abs (c.mapHeadAtoms h acc).1) := by
  induction h generalizing c acc with
  | nil => exact .refl _
  | cons a r ih =>
    refine (mapAtom_steps c a).trans ?_
    rw [← abs_updAtom (c.mapAtom a).1 a (fun _ => true)]
    exact ih _ _

theorem mapHead_steps (c : CS) (h : List Nat) : Steps (abs c) (abs (c.mapHead h).1) := mapHeadAtoms_steps c h []

/-- `newAtom()`: the next atom becomes an auxiliary atom -/
def splitState (c : CS) : CS := { c with next := c.next + 1, aux := c.aux ++ [c.next] }

theorem newAux_steps (c : CS) : Steps (abs c) (abs (splitState c)) := .newAux _ _ (.refl _)

theorem auxAtom_steps (c : CS) (cond : List Int) : Steps (abs c) (abs (c.auxAtom cond).1) :=
  (newAux_steps c).trans (mapLits_steps _ cond [])

theorem makeAtom_steps (c : CS) (cond : List Int) (named : Bool) : Steps (abs c) (abs (c.makeAtom cond named).1) := by
  unfold CS.makeAtom
  split
  · dsimp only
    split
    · exact (mapAtom_steps c _).trans (auxAtom_steps _ cond)
    · rw [abs_updAtom]; exact mapAtom_steps c _
  · exact auxAtom_steps c cond

theorem foldl_inv {σ β : Type} (Q : σ → Prop) (f : σ → β → σ) (hf : ∀ s x, Q s → Q (f s x)) (l : List β) (s : σ) (h : Q s) :
    Q (l.foldl f s) := by
  induction l generalizing s with
  | nil => exact h
  | cons x r ih => exact ih _ (hf s x h)

theorem foldl_steps {σ β : Type} {π : σ → CS} (f : σ → β → σ) (hf : ∀ s x, Steps (abs (π s)) (abs (π (f s x)))) (l : List β) (s : σ) :
    Steps (abs (π s)) (abs (π (l.foldl f s))) :=
  foldl_inv (fun s' => Steps (abs (π s)) (abs (π s'))) f (fun s' x h => h.trans (hf s' x)) l s (.refl _)

theorem flushMinimize_steps (c : CS) : Steps (abs c) (abs c.flushMinimize) := by
  apply foldl_steps (π := id)
  exact fun c pl => mapWLits_steps c pl.2 []

/-- every branch of the loop body is `mapAtom`, followed or not by an `emit` -/
theorem flushExternal_steps (c : CS) : Steps (abs c) (abs c.flushExternal) := by
  unfold CS.flushExternal
  simp only [apply_ite abs, abs_emit, ite_self]
  refine foldl_steps (π := Prod.fst) _ (fun st a => ?_) c.externs (c, [])
  simp only [apply_ite Prod.fst, apply_ite abs, abs_emit, ite_self]
  exact mapAtom_steps _ _

theorem foldl_frame {α β : Type} (φ : CS → α) (f : CS → β → CS) (hf : ∀ c x, φ (f c x) = φ c) (l : List β) (c : CS) :
    φ (l.foldl f c) = φ c :=
  foldl_inv (fun c' => φ c' = φ c) f (fun c' x h => (hf c' x).trans h) l c rfl

/-- one round of `flushHeuristic` -/
def heuStep (c : CS) (h : Convert.Heu) : CS :=
  match c.find h.atom with
  | none => c
  | some ma =>
    let nm := if ma.shown then c.getName ma.smId else none
    let r : CS × List Nat := match nm with
      | some n => (c, n)
      | none =>
        let n := Convert.s "_atom(" ++ AspifOut.printNat ma.smId ++ [41]
        ((c.updAtom h.atom (fun x => { x with shown := true })).addOutput ma.smId n true, n)
    r.1.emit (.output (Convert.s "_heuristic(" ++ r.2 ++ [44] ++ heuName h.type ++ [44] ++ AspifOut.printInt h.bias ++ [44] ++ AspifOut.printNat h.prio ++ [41]) [(h.cond : Int)])

theorem flushHeuristic_eq (c : CS) : c.flushHeuristic = c.heur.foldl heuStep c := rfl

/-- the three shapes of a round: the atom is unknown; it has a name; it gets one -/
theorem heuStep_cases (c : CS) (h : Convert.Heu) : heuStep c h = c ∨ (∃ s l, heuStep c h = c.emit (.output s l)) ∨
    ∃ n nm s l, heuStep c h = ((c.updAtom h.atom fun x => { x with shown := true }).addOutput n nm true).emit (.output s l) := by
  unfold heuStep
  split
  · exact .inl rfl
  · dsimp only
    split
    · exact .inr (.inl ⟨_, _, rfl⟩)
    · exact .inr (.inr ⟨_, _, _, _, rfl⟩)

theorem abs_heuStep (c : CS) (h : Convert.Heu) : abs (heuStep c h) = abs c := by
  rcases heuStep_cases c h with e | ⟨_, _, e⟩ | ⟨_, _, _, _, e⟩ <;> rw [e]
  · rfl
  · simp only [abs_emit, abs_addOutput, abs_updAtom]

theorem abs_flushHeuristic (c : CS) : abs c.flushHeuristic = abs c := foldl_frame abs _ abs_heuStep _ c

theorem foldl_emit {α : Type} (g : α → Call) (l : List α) (c : CS) : l.foldl (fun c p => c.emit (g p)) c = { c with out := c.out ++ l.map g } := by
  induction l generalizing c with
  | nil => simp
  | cons p r ih => rw [List.foldl_cons, ih]; simp only [CS.emit, List.map_cons, List.append_assoc, List.singleton_append]

theorem flushSymbols_eq (c : CS) : c.flushSymbols = { c with out := c.out ++ (sortSyms c.output).map (fun p => .output p.2 [(p.1 : Int)]) } :=
  foldl_emit _ _ c

theorem abs_flushSymbols (c : CS) : abs c.flushSymbols = abs c := by rw [flushSymbols_eq]; rfl

theorem flush_eq (c : CS) : c.flush = { (c.flushMinimize.flushExternal.flushHeuristic.flushSymbols.emit (.assume [-1])) with
    minimize := [], externs := [], heur := [], output := [] } := rfl

theorem flush_out (c : CS) : c.flush.out = c.flushMinimize.flushExternal.flushHeuristic.flushSymbols.out ++ [.assume [-1]] := rfl

theorem abs_clear (s : CS) (m e h o) : abs { s with minimize := m, externs := e, heur := h, output := o } = abs s := rfl

/-- stated as a rewrite rule: unifying the two states directly makes Lean unfold all four flushes before it looks at `abs` -/
theorem abs_flush (c : CS) : abs c.flush = abs c.flushMinimize.flushExternal.flushHeuristic.flushSymbols := by
  rw [flush_eq, abs_clear, abs_emit]

theorem flush_steps (c : CS) : Steps (abs c) (abs c.flush) := by
  rw [abs_flush, abs_flushSymbols, abs_flushHeuristic]
  exact (flushMinimize_steps c).trans (flushExternal_steps _)

theorem apply_fail (c : CS) (hf : c.fail = true) (x : Call) : c.apply x = c := by
  unfold CS.apply; rw [if_pos hf]

theorem not_failed {c : CS} (hf : c.fail = false) : ¬ c.fail = true := by rw [hf]; exact Bool.false_ne_true

theorem apply_init (c : CS) (h : c.fail = false) (inc : Bool) : c.apply (.initProgram inc) = c.emit (.initProgram inc) :=
  if_neg (not_failed h)
theorem apply_begin (c : CS) (h : c.fail = false) : c.apply .beginStep = c.emit .beginStep :=
  if_neg (not_failed h)
theorem apply_end (c : CS) (h : c.fail = false) : c.apply .endStep = c.flush.emit .endStep :=
  if_neg (not_failed h)

/-- the calls smodels cannot express and the converter does not handle ("… not supported") -/
def refused : Call → Bool
  | .project .. | .assume .. | .theoryNum .. | .theorySym .. | .theoryCompound .. | .theoryElement .. | .theoryAtom .. => true
  | _ => false

theorem apply_refused (c : CS) (hf : c.fail = false) {x : Call} (hx : refused x = true) : c.apply x = { c with fail := true } := by
  cases x <;> first | exact absurd hx Bool.false_ne_true | exact if_neg (not_failed hf)

theorem apply_rule_eq (c : CS) (hf : c.fail = false) (ht : Nat) (head : List Nat) (body : List Int) :
    c.apply (.rule ht head body) =
      if (!head.isEmpty || ht == 0) = true then
        ((c.mapHead head).1.mapLits body []).1.emit (.rule ht (c.mapHead head).2 ((c.mapHead head).1.mapLits body []).2)
      else c :=
  if_neg (not_failed hf)

theorem apply_sum_eq (c : CS) (hf : c.fail = false) (ht : Nat) (head : List Nat) (bound : Int) (body : List (Int × Int)) :
    c.apply (.sumRule ht head bound body) =
      if (!head.isEmpty || ht == 0) = true then
        if isSmodelsRule (c.mapHead head).2 ht bound = true then
          ((c.mapHead head).1.mapWLits body []).1.emit (.sumRule ht (c.mapHead head).2 bound ((c.mapHead head).1.mapWLits body []).2)
        else
          ((splitState ((c.mapHead head).1.mapWLits body []).1).emit
              (.sumRule 0 [((c.mapHead head).1.mapWLits body []).1.next] bound ((c.mapHead head).1.mapWLits body []).2)).emit
            (.rule ht (c.mapHead head).2 [(((c.mapHead head).1.mapWLits body []).1.next : Int)])
      else c :=
  if_neg (not_failed hf)

theorem apply_minimize_ite (c : CS) (hf : c.fail = false) (prio : Int) (lits : List (Int × Int)) :
    c.apply (.minimize prio lits) =
      if lits.any (fun p => p.2 == I32MINc) = true then
        { c with fail := true, minimize := insertMin c.minimize prio ((lits.takeWhile (fun p => p.2 != I32MINc)).map flipNeg) }
      else { c with minimize := insertMin c.minimize prio (lits.map flipNeg) } :=
  if_neg (not_failed hf)

theorem apply_minimize_eq (c : CS) (hf : c.fail = false) (prio : Int) (lits : List (Int × Int)) (hx : ∀ p ∈ lits, p.2 ≠ I32MINc) :
    c.apply (.minimize prio lits) = { c with minimize := insertMin c.minimize prio (lits.map flipNeg) } := by
  rw [apply_minimize_ite c hf]
  exact if_neg fun h => by
    obtain ⟨p, hp, h⟩ := List.any_eq_true.mp h
    exact hx p hp (eq_of_beq h)

theorem apply_output_eq (c : CS) (hf : c.fail = false) (str : List Nat) (cond : List Int) :
    c.apply (.output str cond) = (c.makeAtom cond true).1.addOutput (c.makeAtom cond true).2 str true :=
  if_neg (not_failed hf)

theorem apply_external_eq (c : CS) (hf : c.fail = false) (a v : Nat) :
    c.apply (.external a v) =
      if (!(c.mapAtom a).2.head) = true then
        { ((c.mapAtom a).1.updAtom a (fun x => { x with extn := v })) with externs := (c.mapAtom a).1.externs ++ [a] }
      else (c.mapAtom a).1 :=
  if_neg (not_failed hf)

/-- `if (!ext_) out_.…(…)`: a directive smodels cannot express is handed on unchanged unless the helper predicates are used -/
def pass (c : CS) (x : Call) : CS := if !c.ext then c.emit x else c

@[simp] theorem abs_pass (c : CS) (x : Call) : abs (pass c x) = abs c := by unfold pass; split <;> rfl

def edgeName (a b : Int) : List Nat := Convert.s "_edge(" ++ AspifOut.printInt a ++ [44] ++ AspifOut.printInt b ++ [41]

theorem apply_edge_eq (c : CS) (hf : c.fail = false) (a b : Int) (cond : List Int) :
    c.apply (.acycEdge a b cond) = ((pass c (.acycEdge a b cond)).makeAtom cond true).1.addOutput ((pass c (.acycEdge a b cond)).makeAtom cond true).2 (edgeName a b) false :=
  if_neg (not_failed hf)

theorem apply_heu_eq (c : CS) (hf : c.fail = false) (a t : Nat) (bias : Int) (prio : Nat) (cond : List Int) :
    c.apply (.heuristic a t bias prio cond) =
      { ((pass c (.heuristic a t bias prio cond)).makeAtom cond true).1 with
        heur := ((pass c (.heuristic a t bias prio cond)).makeAtom cond true).1.heur ++
          [{ atom := a, type := t, bias := bias, prio := prio, cond := ((pass c (.heuristic a t bias prio cond)).makeAtom cond true).2 }] } :=
  if_neg (not_failed hf)

/-- everything of the state except the atom table and the counter -/
def rest (c : CS) := (c.out, c.fail, c.ext, c.minimize, c.externs, c.heur, c.symTab, c.output, c.aux)

@[simp] theorem rest_mapAtom (c : CS) (a : Nat) : rest (c.mapAtom a).1 = rest c := by unfold CS.mapAtom; split <;> rfl
@[simp] theorem rest_updAtom (c : CS) (a : Nat) (f : CAtom → CAtom) : rest (c.updAtom a f) = rest c := rfl
@[simp] theorem rest_mapLit (c : CS) (l : Int) : rest (c.mapLit l).1 = rest c := rest_mapAtom c _
@[simp] theorem rest_mapLits (c : CS) (ls : List Int) (acc : List Int) : rest (c.mapLits ls acc).1 = rest c := by
  induction ls generalizing c acc with
  | nil => rfl
  | cons l r ih => simp only [CS.mapLits, ih, rest_mapLit]
@[simp] theorem rest_mapWLits (c : CS) (ls : List (Int × Int)) (acc : List (Int × Int)) : rest (c.mapWLits ls acc).1 = rest c :=
  mapWLits_fst c ls acc [] ▸ rest_mapLits c _ []
@[simp] theorem rest_mapHeadAtoms (c : CS) (h : List Nat) (acc : List Nat) : rest (c.mapHeadAtoms h acc).1 = rest c := by
  induction h generalizing c acc with
  | nil => rfl
  | cons a r ih => simp only [CS.mapHeadAtoms, ih, rest_updAtom, rest_mapAtom]
@[simp] theorem rest_mapHead (c : CS) (h : List Nat) : rest (c.mapHead h).1 = rest c := rest_mapHeadAtoms c h []

theorem rest_out {c c' : CS} (h : rest c' = rest c) : c'.out = c.out := congrArg (·.1) h
theorem rest_fail {c c' : CS} (h : rest c' = rest c) : c'.fail = c.fail := congrArg (·.2.1) h
theorem rest_ext {c c' : CS} (h : rest c' = rest c) : c'.ext = c.ext := congrArg (·.2.2.1) h
theorem rest_minimize {c c' : CS} (h : rest c' = rest c) : c'.minimize = c.minimize := congrArg (·.2.2.2.1) h
theorem rest_externs {c c' : CS} (h : rest c' = rest c) : c'.externs = c.externs := congrArg (·.2.2.2.2.1) h
theorem rest_heur {c c' : CS} (h : rest c' = rest c) : c'.heur = c.heur := congrArg (·.2.2.2.2.2.1) h
theorem rest_symTab {c c' : CS} (h : rest c' = rest c) : c'.symTab = c.symTab := congrArg (·.2.2.2.2.2.2.1) h
theorem rest_output {c c' : CS} (h : rest c' = rest c) : c'.output = c.output := congrArg (·.2.2.2.2.2.2.2.1) h
theorem rest_aux {c c' : CS} (h : rest c' = rest c) : c'.aux = c.aux := congrArg (·.2.2.2.2.2.2.2.2) h

/-- the calls emitted before the end of a step: rules, and the directives handed on unchanged (`pass`) -/
def quiet : Call → Bool
  | .rule .. | .sumRule .. | .heuristic .. | .acycEdge .. => true
  | _ => false

/-- `c'` comes from `c` by mapping atoms and emitting quiet calls (the externals go with the per-atom flags, Lemmas/ConvertFlags.lean) -/
structure Maps (c c' : CS) : Prop where
  steps    : Steps (abs c) (abs c')
  out      : ∃ rs, c'.out = c.out ++ rs ∧ ∀ y ∈ rs, quiet y = true
  fail     : c'.fail = c.fail
  ext      : c'.ext = c.ext
  minimize : c'.minimize = c.minimize
  heur     : c'.heur = c.heur
  symTab   : c'.symTab = c.symTab
  output   : c'.output = c.output

theorem Maps.refl (c : CS) : Maps c c := ⟨.refl _, ⟨[], (List.append_nil _).symm, (List.forall_mem_nil _)⟩, rfl, rfl, rfl, rfl, rfl, rfl⟩

theorem Maps.trans {c c1 c2 : CS} (h1 : Maps c c1) (h2 : Maps c1 c2) : Maps c c2 := by
  obtain ⟨r1, e1, q1⟩ := h1.out
  obtain ⟨r2, e2, q2⟩ := h2.out
  refine ⟨h1.steps.trans h2.steps, ⟨r1 ++ r2, by rw [e2, e1, List.append_assoc], fun y hy => ?_⟩, h2.fail.trans h1.fail, h2.ext.trans h1.ext,
    h2.minimize.trans h1.minimize, h2.heur.trans h1.heur, h2.symTab.trans h1.symTab, h2.output.trans h1.output⟩
  exact (List.mem_append.mp hy).elim (q1 y) (q2 y)

theorem Maps.of_rest {c c' : CS} (hs : Steps (abs c) (abs c')) (h : rest c' = rest c) : Maps c c' :=
  ⟨hs, ⟨[], by rw [rest_out h, List.append_nil], (List.forall_mem_nil _)⟩, rest_fail h, rest_ext h, rest_minimize h, rest_heur h,
    rest_symTab h, rest_output h⟩

theorem Maps.emit {c c' : CS} (h : Maps c c') (x : Call) (hx : quiet x = true) : Maps c (c'.emit x) :=
  h.trans ⟨.refl _, ⟨[x], rfl, fun _ hy => List.mem_singleton.mp hy ▸ hx⟩, rfl, rfl, rfl, rfl, rfl, rfl⟩

theorem Maps.view {c c' : CS} (h : Maps c c') {α : Type} (f : Call → Option α) (hf : ∀ y, quiet y = true → f y = none) :
    c'.out.filterMap f = c.out.filterMap f := by
  obtain ⟨rs, e, hq⟩ := h.out
  rw [e, List.filterMap_append, List.filterMap_eq_nil_iff.mpr fun y hy => hf y (hq y hy), List.append_nil]

theorem Maps.setExterns {c m : CS} (h : Maps c m) (e : List Nat) : Maps c { m with externs := e } :=
  ⟨h.steps, h.out, h.fail, h.ext, h.minimize, h.heur, h.symTab, h.output⟩

theorem maps_newAux (c : CS) : Maps c (splitState c) :=
  ⟨newAux_steps c, ⟨[], (List.append_nil _).symm, (List.forall_mem_nil _)⟩, rfl, rfl, rfl, rfl, rfl, rfl⟩

theorem maps_updAtom (c : CS) (a : Nat) (h s : CAtom → Bool) (e : CAtom → Nat) : Maps c (c.updAtom a fun x => ⟨x.smId, h x, s x, e x⟩) :=
  .of_rest (by rw [abs_updAtom]; exact .refl _) rfl

theorem maps_auxAtom (c : CS) (cond : List Int) : Maps c (c.auxAtom cond).1 :=
  ((maps_newAux c).trans (.of_rest (mapLits_steps _ cond []) (rest_mapLits _ cond []))).emit _ rfl

theorem maps_makeAtom (c : CS) (cond : List Int) (named : Bool) : Maps c (c.makeAtom cond named).1 := by
  have h1 : Maps c (c.mapAtom (cond.headD 0).natAbs).1 := .of_rest (mapAtom_steps c _) (rest_mapAtom c _)
  unfold CS.makeAtom
  split
  · dsimp only
    split
    · exact h1.trans (maps_auxAtom _ cond)
    · dsimp only; exact h1.trans (maps_updAtom ..)
  · exact maps_auxAtom c cond

theorem maps_pass (c : CS) (x : Call) (hx : quiet x = true) : Maps c (pass c x) := by
  unfold pass; split
  · exact (Maps.refl c).emit x hx
  · exact .refl c

theorem maps_rule (c : CS) (hf : c.fail = false) (ht : Nat) (head : List Nat) (body : List Int) : Maps c (c.apply (.rule ht head body)) := by
  rw [apply_rule_eq c hf]
  split
  · exact (Maps.of_rest ((mapHead_steps c head).trans (mapLits_steps _ body [])) (by simp)).emit _ rfl
  · exact .refl c

theorem maps_sum (c : CS) (hf : c.fail = false) (ht : Nat) (head : List Nat) (bound : Int) (body : List (Int × Int)) :
    Maps c (c.apply (.sumRule ht head bound body)) := by
  have h : Maps c ((c.mapHead head).1.mapWLits body []).1 := .of_rest ((mapHead_steps c head).trans (mapWLits_steps _ body [])) (by simp)
  rw [apply_sum_eq c hf]
  split
  · split
    · exact h.emit _ rfl
    · exact ((h.trans (maps_newAux _)).emit _ rfl).emit _ rfl
  · exact .refl c

theorem maps_external (c : CS) (hf : c.fail = false) (a v : Nat) : Maps c (c.apply (.external a v)) := by
  have h : Maps c (c.mapAtom a).1 := .of_rest (mapAtom_steps c a) (rest_mapAtom c a)
  rw [apply_external_eq c hf]
  split
  · exact (h.trans (maps_updAtom _ a (·.head) (·.shown) fun _ => v)).setExterns _
  · exact h

theorem apply_steps (c : CS) (x : Call) : Steps (abs c) (abs (c.apply x)) := by
  by_cases hf : c.fail = true
  · rw [apply_fail c hf]; exact .refl _
  have hf' : c.fail = false := Bool.eq_false_iff.mpr hf
  cases x with
  | rule ht head body => exact (maps_rule c hf' ht head body).steps
  | sumRule ht head bound body => exact (maps_sum c hf' ht head bound body).steps
  | external a v => exact (maps_external c hf' a v).steps
  | output str cond => rw [apply_output_eq c hf', abs_addOutput]; exact makeAtom_steps c cond true
  | heuristic a t bias prio cond =>
    rw [apply_heu_eq c hf', ← abs_pass c (.heuristic a t bias prio cond)]; exact makeAtom_steps _ cond true
  | acycEdge a b cond =>
    rw [apply_edge_eq c hf', abs_addOutput, ← abs_pass c (.acycEdge a b cond)]; exact makeAtom_steps _ cond true
  | endStep => rw [apply_end c hf', abs_emit]; exact flush_steps c
  | minimize prio lits => rw [apply_minimize_ite c hf']; split <;> exact .refl _
  | initProgram inc => rw [apply_init c hf']; exact .refl _
  | beginStep => rw [apply_begin c hf']; exact .refl _
  | _ => rw [apply_refused c hf' rfl]; exact .refl _

theorem convert_steps (c : CS) (cs : List Call) : Steps (abs c) (abs (cs.foldl CS.apply c)) :=
  foldl_steps _ apply_steps cs c

theorem inv_convert (ext : Bool) (cs : List Call) : Inv (abs (convert ext cs)) :=
  (convert_steps { ext := ext } cs).inv inv_init

theorem convert_append_steps (ext : Bool) (cs cs' : List Call) : Steps (abs (convert ext cs)) (abs (convert ext (cs ++ cs'))) := by
  unfold convert; rw [List.foldl_append]; exact convert_steps _ cs'

theorem inj_of_nodup_map {α β : Type} {f : α → β} {l : List α} (hn : (l.map f).Nodup) {x y : α} (hx : x ∈ l) (hy : y ∈ l) (e : f x = f y) :
    x = y := by
  induction l with
  | nil => cases hx
  | cons p r ih =>
    obtain ⟨h1, h2⟩ := List.nodup_cons.mp hn
    rcases List.mem_cons.mp hx with rfl | hx' <;> rcases List.mem_cons.mp hy with rfl | hy'
    · rfl
    · exact absurd (e ▸ List.mem_map_of_mem hy') h1
    · exact absurd (e ▸ List.mem_map_of_mem hx') h1
    · exact ih h2 hx' hy'

theorem snd_inj (l : List (Nat × Nat)) (hn : (l.map (·.2)).Nodup) (a b n : Nat) (h1 : (a, n) ∈ l) (h2 : (b, n) ∈ l) : a = b :=
  (Prod.mk.inj (inj_of_nodup_map (f := (·.2)) hn h1 h2 rfl)).1

theorem img_mem (c : CS) (a n : Nat) : img c a = some n → (a, n) ∈ (abs c).ids := by
  rw [img_abs]
  intro h
  obtain ⟨⟨b, n⟩, hp, rfl⟩ := Option.map_eq_some_iff.mp h
  have e := List.find?_some hp
  obtain rfl : b = a := eq_of_beq e
  exact List.mem_of_find?_eq_some hp

theorem mem_img (c : CS) (hk : ((abs c).ids.map (·.1)).Nodup) (a n : Nat) (h : (a, n) ∈ (abs c).ids) : img c a = some n := by
  rw [img_abs]
  cases hf : (abs c).ids.find? (fun p => p.1 == a) with
  | none => exact absurd (beq_self_eq_true a) (List.find?_eq_none.mp hf _ h)
  | some p =>
    have e := List.find?_some hf
    rw [inj_of_nodup_map hk (List.mem_of_find?_eq_some hf) h (eq_of_beq e)]; rfl

/-- **C02 (the atom map is injective)**: after any call sequence, two different input atoms never share an output atom;
    images lie in `2 … next-1` (atom 1 is the false atom and is nobody's image). -/
theorem C02_map_injective (ext : Bool) (cs : List Call) (a b n : Nat)
    (ha : img (convert ext cs) a = some n) (hb : img (convert ext cs) b = some n) : a = b ∧ 2 ≤ n ∧ n < (convert ext cs).next := by
  have hi := inv_convert ext cs
  have h1 := img_mem _ _ _ ha
  have h2 := img_mem _ _ _ hb
  exact ⟨snd_inj _ hi.imgs a b n h1 h2, hi.rng.1 n (List.mem_map_of_mem (f := (·.2)) h1)⟩

/-- **C02 (the atom map is stable)**: a mapped atom keeps its image whatever calls follow — further rules, further steps. -/
theorem C02_map_stable (ext : Bool) (cs cs' : List Call) (a n : Nat) (ha : img (convert ext cs) a = some n) :
    img (convert ext (cs ++ cs')) a = some n := by
  have hs := convert_append_steps ext cs cs'
  exact mem_img _ (hs.inv (inv_convert ext cs)).keys a n (hs.mono.1 _ (img_mem _ _ _ ha))

/-- **C02 (auxiliary atoms are fresh)**: the atoms the converter invents (for compound conditions, named-twice atoms and
    weight rules smodels cannot express) are pairwise different, are never the image of an input atom — now or later —
    and stay what they are when further calls follow. -/
theorem C02_aux_fresh (ext : Bool) (cs cs' : List Call) :
    (convert ext cs).aux.Nodup ∧ (∀ a n, img (convert ext (cs ++ cs')) a = some n → n ∉ (convert ext cs).aux) ∧
    (∀ n ∈ (convert ext cs).aux, n ∈ (convert ext (cs ++ cs')).aux) := by
  have hi := inv_convert ext cs
  have hs := convert_append_steps ext cs cs'
  exact ⟨hi.auxs, fun a n ha hm => (hs.inv hi).disj n (List.mem_map_of_mem (f := (·.2)) (img_mem _ _ _ ha)) (hs.mono.2 n hm), hs.mono.2⟩

/-- the value of a minimize statement under a truth assignment of the literals -/
def cost (v : Int → Bool) (ws : List (Int × Int)) : Int := (ws.map (fun p => if v p.1 then p.2 else 0)).sum

/-- **C02 (negative weights)**: moving a negative weight to the complementary literal changes the value of the statement by a
    constant — the sum of the negative weights — under EVERY assignment; so the order of models by cost is unchanged. -/
theorem C02_minimize_flip (v : Int → Bool) (hv : ∀ l, l ≠ 0 → v (-l) = !v l) (ws : List (Int × Int)) (hz : ∀ p ∈ ws, p.1 ≠ 0) :
    cost v (ws.map flipNeg) = cost v ws - ((ws.filter (fun p => p.2 < 0)).map (·.2)).sum := by
  induction ws with
  | nil => rfl
  | cons p r ih =>
    have hp := hz p List.mem_cons_self
    show (if v (flipNeg p).1 then (flipNeg p).2 else 0) + cost v (r.map flipNeg) = (if v p.1 then p.2 else 0) + cost v r - _
    rw [ih fun q hq => hz q (List.mem_cons_of_mem _ hq), List.filter_cons]
    unfold flipNeg
    by_cases hneg : p.2 < 0
    · rw [if_pos hneg, if_pos (decide_eq_true hneg), List.map_cons, List.sum_cons, hv p.1 hp]
      cases v p.1
      · rw [Bool.not_false, if_pos rfl, if_neg Bool.false_ne_true]; omega
      · rw [Bool.not_true, if_neg Bool.false_ne_true, if_pos rfl]; omega
    · rw [if_neg hneg, if_neg (fun h => hneg (of_decide_eq_true h))]; omega

theorem insertMin_keys (m : List (Int × List (Int × Int))) (prio : Int) (ls : List (Int × Int)) (x : Int) :
    x ∈ (insertMin m prio ls).map (·.1) ↔ x = prio ∨ x ∈ m.map (·.1) := by
  induction m with
  | nil => simp only [insertMin, List.map_cons, List.map_nil, List.mem_singleton, List.not_mem_nil, or_false]
  | cons q r ih =>
    unfold insertMin
    split
    · rename_i h
      simp only [List.map_cons, List.mem_cons, eq_of_beq h, or_self_left]
    · split
      · exact List.mem_cons
      · simp only [List.map_cons, List.mem_cons, ih, or_left_comm]

theorem insertMin_sorted (m : List (Int × List (Int × Int))) (prio : Int) (ls : List (Int × Int))
    (h : (m.map (·.1)).Pairwise (· < ·)) : ((insertMin m prio ls).map (·.1)).Pairwise (· < ·) := by
  induction m with
  | nil => exact List.pairwise_singleton _ _
  | cons q r ih =>
    obtain ⟨p, l⟩ := q
    obtain ⟨h1, h2⟩ := List.pairwise_cons.mp h
    unfold insertMin
    split
    · exact h
    · rename_i hne
      have hne' : p ≠ prio := fun e => hne (e ▸ beq_self_eq_true _)
      split
      · rename_i hlt
        exact List.pairwise_cons.mpr ⟨fun x hx => (List.mem_cons.mp hx).elim (· ▸ hlt) fun hx => Int.lt_trans hlt (h1 x hx), h⟩
      · rename_i hge
        refine List.pairwise_cons.mpr ⟨fun x hx => ?_, ih h2⟩
        rcases (insertMin_keys r prio ls x).mp hx with rfl | hx
        · show p < x; omega
        · exact h1 x hx

@[simp] theorem updAtom_min (c : CS) (a : Nat) (f : CAtom → CAtom) : (c.updAtom a f).minimize = c.minimize := rfl
@[simp] theorem emit_min (c : CS) (x : Call) : (c.emit x).minimize = c.minimize := rfl
@[simp] theorem addOutput_min (c : CS) (a : Nat) (n : List Nat) (h : Bool) : (c.addOutput a n h).minimize = c.minimize := rfl

theorem apply_minimize_sorted (c : CS) (x : Call) (h : (c.minimize.map (·.1)).Pairwise (· < ·)) :
    ((c.apply x).minimize.map (·.1)).Pairwise (· < ·) := by
  by_cases hf : c.fail = true
  · rw [apply_fail c hf]; exact h
  have hf' : c.fail = false := Bool.eq_false_iff.mpr hf
  cases x with
  | minimize prio lits => rw [apply_minimize_ite c hf']; split <;> exact insertMin_sorted _ _ _ h
  | endStep => rw [apply_end c hf', emit_min, flush_eq]; exact .nil
  | rule ht head body => rw [(maps_rule c hf' ht head body).minimize]; exact h
  | sumRule ht head bound body => rw [(maps_sum c hf' ht head bound body).minimize]; exact h
  | output str cond => rw [apply_output_eq c hf', addOutput_min, (maps_makeAtom c cond true).minimize]; exact h
  | acycEdge a b cond =>
    rw [apply_edge_eq c hf', addOutput_min, (maps_makeAtom _ cond true).minimize, (maps_pass c _ rfl).minimize]; exact h
  | heuristic a t bias prio cond =>
    have e : (c.apply (.heuristic a t bias prio cond)).minimize = c.minimize := by
      rw [apply_heu_eq c hf']; exact (maps_makeAtom _ cond true).minimize.trans (maps_pass c _ rfl).minimize
    rw [e]; exact h
  | external a v => rw [(maps_external c hf' a v).minimize]; exact h
  | initProgram inc => rw [apply_init c hf']; exact h
  | beginStep => rw [apply_begin c hf']; exact h
  | _ => rw [apply_refused c hf' rfl]; exact h

/-- **C02 (one statement per priority, ascending)**: at every moment the pending minimize statements are kept with
    pairwise different, strictly ascending priorities (statements of equal priority are merged), and `endStep` emits
    them in exactly that order — lower priorities first. -/
theorem C02_minimize_sorted (ext : Bool) (cs : List Call) : (((convert ext cs).minimize).map (·.1)).Pairwise (· < ·) :=
  foldl_inv _ _ apply_minimize_sorted cs _ .nil

def minPrios (out : List Call) : List Int := out.filterMap (fun x => match x with | .minimize p _ => some p | _ => none)

theorem flushMinimize_order (c : CS) : minPrios c.flushMinimize.out = minPrios c.out ++ c.minimize.map (·.1) := by
  unfold CS.flushMinimize
  generalize c.minimize = m
  induction m generalizing c with
  | nil => simp
  | cons pl r ih =>
    simp only [List.foldl_cons, List.map_cons]
    rw [ih]
    simp [CS.emit, minPrios, List.filterMap_append, rest_out (rest_mapWLits c pl.2 [])]

example : (convert true [.initProgram false, .beginStep, .rule 0 [5] [3, -4], .minimize 1 [(3, 2), (-4, -3)], .minimize 0 [(5, 1)], .output [97] [5], .output [98] [5], .endStep]).out =
    [.initProgram false, .beginStep, .rule 0 [2] [3, -4], .rule 0 [5] [2], .minimize 0 [(2, 1)], .minimize 1 [(3, 2), (4, 3)], .output [97] [2], .output [98] [5], .assume [-1], .endStep] := by
  decide +kernel
example : img (convert true [.initProgram false, .beginStep, .rule 0 [5] [3, -4]]) 4 = some 4 := by decide +kernel

end PotasscoVerif.C02
