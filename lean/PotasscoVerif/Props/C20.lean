/-
  C20 — type-erased value holder keeps value semantics and single ownership.
  Model: Model/ValueStore.lean.  The histories are ALL lists of set / copy-assign (incl. self assignment) / swap / adopt /
  clear / surrender over any number of holders.  Ownership is kept as an account (`Inv`): every object id constructed so
  far sits in exactly one of a holder, `destroyed`, `surrendered` (the caller's from then on); no other id sits anywhere.
  The reference-count half (`RC`, shared options): Props/C20rc.lean.
-/
import PotasscoVerif.Model.ValueStore
namespace PotasscoVerif.C20
open PotasscoVerif.ValueStore

def owns (id : Nat) (h : Option Obj) : Nat := if h.map (·.id) = some id then 1 else 0

def occ (id : Nat) (s : VS) : Nat :=
  (s.holders.map (owns id)).sum + s.destroyed.count id + s.surrendered.count id

structure Inv (s : VS) : Prop where
  pos  : 1 ≤ s.nextId
  acct : ∀ id, occ id s = if 1 ≤ id ∧ id < s.nextId then 1 else 0

theorem sum_set {α} (g : α → Nat) : ∀ (l : List α) (i : Nat) (x a : α), l[i]? = some a →
    ((l.set i x).map g).sum + g a = (l.map g).sum + g x := by
  intro l
  induction l with
  | nil => intro i x a h; cases h
  | cons b l ih =>
    intro i x a h
    cases i with
    | zero => cases h; simp only [List.set_cons_zero, List.map_cons, List.sum_cons]; omega
    | succ i =>
      rw [List.set_cons_succ, List.map_cons, List.map_cons, List.sum_cons, List.sum_cons, Nat.add_assoc, Nat.add_assoc, ih i x a h]

theorem sum_swap {α} (g : Option α → Nat) (l : List (Option α)) (i j : Nat) (hi : i < l.length) (hj : j < l.length) :
    (((l.set i (l[j]?).join).set j (l[i]?).join).map g).sum = (l.map g).sum := by
  rw [List.getElem?_eq_getElem hi, List.getElem?_eq_getElem hj]
  show (((l.set i l[j]).set j l[i]).map g).sum = _
  -- cell `j` still holds `l[j]` after the first store, also when `i = j`
  have hjj : (l.set i l[j])[j]? = some l[j] := by
    by_cases hij : i = j
    · subst hij; exact List.getElem?_set_self hi
    · rw [List.getElem?_set_ne hij]; exact List.getElem?_eq_getElem hj
  exact Nat.add_right_cancel ((sum_set g _ j l[i] l[j] hjj).trans (sum_set g l i l[j] l[i] (List.getElem?_eq_getElem hi)))

theorem get_some {s : VS} {i : Nat} {o : Obj} (h : s.get i = some o) : s.holders[i]? = some (some o) :=
  Option.join_eq_some_iff.mp h

theorem get_lt {s : VS} {i : Nat} {o : Obj} (h : s.get i = some o) : i < s.holders.length :=
  (List.getElem?_eq_some_iff.mp (get_some h)).1

theorem get_none {s : VS} {i : Nat} (h : s.get i = none) (hi : i < s.holders.length) : s.holders[i]? = some none := by
  unfold VS.get at h
  rw [List.getElem?_eq_getElem hi] at h ⊢
  exact congrArg some h

theorem owns_none (id : Nat) : owns id none = 0 := rfl
theorem owns_some (id : Nat) (o : Obj) : owns id (some o) = if o.id = id then 1 else 0 := by
  unfold owns; simp

theorem count_append_single (l : List Nat) (a id : Nat) : (l ++ [a]).count id = l.count id + (if a = id then 1 else 0) := by
  simp [List.count_append, List.count_cons, List.count_nil]

theorem sum_set_none {s : VS} {i : Nat} {o : Obj} (hg : s.get i = some o) (id : Nat) :
    ((s.holders.set i none).map (owns id)).sum + (if o.id = id then 1 else 0) = (s.holders.map (owns id)).sum := by
  have := sum_set (owns id) s.holders i none (some o) (get_some hg)
  rwa [owns_none, owns_some, Nat.add_zero] at this

theorem clear_occ (s : VS) (i id : Nat) : occ id (s.clear i) = occ id s := by
  unfold VS.clear
  cases hg : s.get i with
  | none => rfl
  | some o =>
    have hs := sum_set_none hg id
    unfold occ
    simp only [count_append_single]
    omega

theorem clear_next (s : VS) (i : Nat) : (s.clear i).nextId = s.nextId := by unfold VS.clear; split <;> rfl
theorem clear_len (s : VS) (i : Nat) : (s.clear i).holders.length = s.holders.length := by
  unfold VS.clear; split
  · exact List.length_set
  · rfl
theorem holders_clear_self (s : VS) (i : Nat) (hi : i < s.holders.length) : (s.clear i).holders[i]? = some none := by
  unfold VS.clear
  cases hg : s.get i with
  | none => exact get_none hg hi
  | some o => exact List.getElem?_set_self hi

theorem surrender_occ (s : VS) (i id : Nat) : occ id (s.surrender i) = occ id s := by
  unfold VS.surrender
  cases hg : s.get i with
  | none => rfl
  | some o =>
    have hs := sum_set_none hg id
    unfold occ
    simp only [count_append_single]
    omega

theorem surrender_next (s : VS) (i : Nat) : (s.surrender i).nextId = s.nextId := by unfold VS.surrender; split <;> rfl

theorem put_fresh (s : VS) (i : Nat) (o : Obj) (hi : i < s.holders.length) (hid : o.id = s.nextId) (h : Inv s) :
    Inv { (s.clear i) with holders := (s.clear i).holders.set i (some o), nextId := s.nextId + 1 } := by
  refine ⟨Nat.le_succ_of_le h.pos, fun id => ?_⟩
  have hpos := h.pos
  have hs := sum_set (owns id) (s.clear i).holders i (some o) none (holders_clear_self s i hi)
  rw [owns_none, owns_some, hid, Nat.add_zero] at hs
  have hinv := (clear_occ s i id).trans (h.acct id)
  unfold occ at hinv
  show ((List.set _ i (some o)).map (owns id)).sum + (s.clear i).destroyed.count id + (s.clear i).surrendered.count id =
    if 1 ≤ id ∧ id < s.nextId + 1 then 1 else 0
  rw [hs]
  by_cases he : s.nextId = id
  · subst he
    rw [if_neg fun hc => Nat.lt_irrefl _ hc.2] at hinv
    rw [if_pos rfl, if_pos ⟨hpos, Nat.lt_succ_self _⟩]; omega
  · rw [if_neg he, Nat.add_zero]
    by_cases hr : 1 ≤ id ∧ id < s.nextId
    · rw [if_pos hr] at hinv; rw [if_pos ⟨hr.1, Nat.lt_succ_of_lt hr.2⟩]; exact hinv
    · rw [if_neg hr] at hinv
      rw [if_neg fun hc => hr ⟨hc.1, Nat.lt_of_le_of_ne (Nat.le_of_lt_succ hc.2) (Ne.symm he)⟩]; exact hinv

theorem inv_of_eq {s s' : VS} (h : Inv s) (hn : s'.nextId = s.nextId) (ho : ∀ id, occ id s' = occ id s) : Inv s' :=
  ⟨hn ▸ h.pos, fun id => by rw [ho id, hn]; exact h.acct id⟩

theorem step_inv (s : VS) (op : Op) (h : Inv s) : Inv (s.step op) := by
  cases op with
  | set i ty v | adopt i ty v =>
    show Inv (if _ then _ else _)
    split
    · exact put_fresh s i _ ‹_› rfl h
    · exact h
  | copy i j =>
    show Inv (if _ then _ else _)
    split
    · rename_i hij
      unfold VS.copy
      cases hg : s.get i with
      | none => exact inv_of_eq h (clear_next s j) (clear_occ s j)
      | some o => exact put_fresh s j { o with id := s.nextId } hij.2 rfl h
    · exact h
  | clear i => exact inv_of_eq h (clear_next s i) (clear_occ s i)
  | surrender i => exact inv_of_eq h (surrender_next s i) (surrender_occ s i)
  | readopt i => exact h
  | selfAssign i =>
    show Inv (match s.get i with | some o => _ | none => _)
    cases hg : s.get i with
    | none => exact h
    | some o => exact put_fresh s i _ (get_lt hg) rfl h
  | swap i j =>
    show Inv (if _ then _ else _)
    split
    · rename_i hij
      exact inv_of_eq h rfl fun id => congrArg (· + _ + _) (sum_swap (owns id) s.holders i j hij.1 hij.2)
    · exact h

def run : VS → List Op → VS
  | s, [] => s
  | s, op :: ops => run (s.step op) ops

theorem sum_replicate_none (id n : Nat) : ((List.replicate n (none : Option Obj)).map (owns id)).sum = 0 := by
  induction n with
  | zero => rfl
  | succ n ih => rw [List.replicate_succ, List.map_cons, List.sum_cons, ih]; rfl

theorem init_inv (n : Nat) : Inv (VS.init n) := by
  refine ⟨Nat.le_refl 1, fun id => ?_⟩
  show ((List.replicate n (none : Option Obj)).map (owns id)).sum + 0 + 0 = if 1 ≤ id ∧ id < 1 then 1 else 0
  rw [sum_replicate_none, if_neg fun hc => Nat.not_lt.mpr hc.1 hc.2]

theorem run_inv : ∀ (ops : List Op) (s : VS), Inv s → Inv (run s ops) := by
  intro ops
  induction ops with
  | nil => intro s h; exact h
  | cons op ops ih => intro s h; exact ih _ (step_inv s op h)

theorem count_held (id : Nat) : ∀ (hs : List (Option Obj)), (hs.filterMap (fun h => h.map (·.id))).count id = (hs.map (owns id)).sum := by
  intro hs
  induction hs with
  | nil => rfl
  | cons h hs ih =>
    cases h with
    | none => exact ih.trans (Nat.zero_add _).symm
    | some o =>
      show (o.id :: _).count id = owns id (some o) + _
      rw [List.count_cons, ih, owns_some, Nat.add_comm]
      simp only [beq_iff_eq]; rfl

/-- **C20_once.** Whatever history is applied to `n` empty holders, once the holders are gone every object
    constructed during the history (ids `1 .. nextId-1`) has been destroyed exactly once, unless it was
    surrendered — then it was never destroyed; and no other id is ever destroyed or surrendered. -/
theorem C20_once (n : Nat) (ops : List Op) (id : Nat) :
    let f := (run (VS.init n) ops).destroyAll
    f.destroyed.count id + f.surrendered.count id = (if 1 ≤ id ∧ id < f.nextId then 1 else 0) := by
  intro f
  have hinv := (run_inv ops _ (init_inv n)).acct id
  unfold occ at hinv
  show ((run (VS.init n) ops).destroyed ++ ((run (VS.init n) ops).holders.filterMap (fun h => h.map (·.id)))).count id +
    (run (VS.init n) ops).surrendered.count id = _
  rw [List.count_append, count_held]
  show _ = if 1 ≤ id ∧ id < (run (VS.init n) ops).nextId then 1 else 0
  omega

/-- **single owner**: at every point of a history an object is held by at most one holder and an object in a
    holder has been neither destroyed nor surrendered. -/
theorem C20_single_owner (n : Nat) (ops : List Op) (id : Nat) :
    ((run (VS.init n) ops).holders.map (owns id)).sum ≤ 1 ∧
    (((run (VS.init n) ops).holders.map (owns id)).sum = 1 →
      (run (VS.init n) ops).destroyed.count id = 0 ∧ (run (VS.init n) ops).surrendered.count id = 0) := by
  have hinv := (run_inv ops _ (init_inv n)).acct id
  unfold occ at hinv
  have hle : (if 1 ≤ id ∧ id < (run (VS.init n) ops).nextId then 1 else 0) ≤ 1 := by split <;> decide
  exact ⟨by omega, fun h1 => by omega⟩

/-- typed access: the stored value for the stored type, a type error for any other type or an empty holder. -/
theorem C20_typed (s : VS) (i ty : Nat) :
    s.cast i ty = match s.get i with | some o => (if o.ty = ty then some o.val else none) | none => none := rfl

theorem get_set (l : List (Option Obj)) (i j : Nat) (x : Option Obj) (h : i < l.length) :
    ((l.set i x)[j]?).join = if j = i then x else (l[j]?).join := by
  by_cases hj : j = i
  · subst hj; rw [List.getElem?_set_self h, if_pos rfl]; rfl
  · rw [List.getElem?_set_ne (Ne.symm hj), if_neg hj]

theorem get_clear (s : VS) (i j : Nat) : (s.clear i).get j = if j = i then none else s.get j := by
  unfold VS.clear
  cases hg : s.get i with
  | none => by_cases hj : j = i <;> simp [hj, hg]
  | some o =>
    unfold VS.get; simp only
    exact get_set s.holders i j none (get_lt hg)

theorem get_put (s : VS) (i : Nat) (o : Obj) (n : Nat) (hi : i < s.holders.length) (j : Nat) :
    VS.get { (s.clear i) with holders := (s.clear i).holders.set i (some o), nextId := n } j = if j = i then some o else s.get j := by
  show (((s.clear i).holders.set i (some o))[j]?).join = _
  rw [get_set _ i j _ (by rw [clear_len]; exact hi)]
  by_cases hj : j = i
  · rw [if_pos hj, if_pos hj]
  · rw [if_neg hj, if_neg hj]
    exact (get_clear s i j).trans (if_neg hj)

/-- a holder holds the value last stored in it; storing leaves every other holder untouched. -/
theorem C20_set_get (s : VS) (i ty : Nat) (v : Int) (hi : i < s.holders.length) (j : Nat) :
    (s.set i ty v).get j = if j = i then some { id := s.nextId, ty := ty, val := v, heap := !inPlaceTy ty } else s.get j :=
  get_put s i _ _ hi j

/-- assigning a holder the value it already holds (`h = value_cast<T>(h)`) leaves every typed access as it was: the copy is
    taken before the old object goes -/
theorem C20_self_assign (s : VS) (i j ty : Nat) : (s.step (.selfAssign i)).cast j ty = s.cast j ty := by
  simp only [VS.step]
  cases hg : s.get i with
  | none => rfl
  | some o =>
    unfold VS.cast
    rw [C20_set_get s i o.ty o.val (get_lt hg) j]
    by_cases hj : j = i
    · rw [if_pos hj, hj, hg]
    · rw [if_neg hj]

/-- a copy has the same type and value as its source but is a different (fresh) object; the source and all
    other holders are unchanged — so later changes to either are independent. -/
theorem C20_copy_independent (s : VS) (i j : Nat) (o : Obj) (hj : j < s.holders.length) (hne : i ≠ j) (hg : s.get i = some o)
    (k : Nat) : (s.copy i j).get k = if k = j then some { o with id := s.nextId } else s.get k := by
  unfold VS.copy
  simp only [hg]
  exact get_put s j _ _ hj k

example : ((run (VS.init 4) [.set 0 0 5, .set 1 2 7, .copy 0 2, .swap 1 2, .adopt 3 0 9, .surrender 2, .clear 0, .copy 1 1]).destroyAll.destroyed.length,
    (run (VS.init 4) [.set 0 0 5, .set 1 2 7, .copy 0 2, .swap 1 2, .adopt 3 0 9, .surrender 2, .clear 0, .copy 1 1]).surrendered) = (4, [2]) := by decide +kernel

end PotasscoVerif.C20
