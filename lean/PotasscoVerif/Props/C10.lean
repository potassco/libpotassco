/-
  C10 — the ground-text reader delivers exactly the statements written in its input syntax.
  Theorems about Model/TextIn.lean (tied to src/aspif_text.cpp by the `tr` correspondence).

  Every lemma is stated for an arbitrary stream state `a` whose remaining input is the printed token followed by an
  arbitrary filler `ws` (any number of the characters 9..32: blanks, tabs, CR, LF, …) and a continuation `k`; it yields the value and a state whose
  remaining input is exactly `k` — so the lemmas compose along any token sequence, and the filler is irrelevant.
-/
import PotasscoVerif.Model.TextIn
import PotasscoVerif.Lemmas.Decimal
namespace PotasscoVerif.C10
open PotasscoVerif PotasscoVerif.CharStream PotasscoVerif.TextIn PotasscoVerif.Decimal PotasscoVerif.AspifOut
open PotasscoVerif.BufferedStream (isDigit isWs I64MAX)

def Filler (ws : List Nat) : Prop := ∀ c ∈ ws, isWs c = true

/-- the continuation starts with a character that can neither extend an identifier nor a number nor be skipped -/
def Sep (k : List Nat) : Prop := ∀ c r, k = c :: r → isWs c = false ∧ isDigit c = false ∧ isLower c = false ∧ c ≠ 95

theorem Sep.nws {k : List Nat} (h : Sep k) : NWS k := fun c r e => (h c r e).1

theorem Sep.cons {c : Nat} (h : isWs c = false ∧ isDigit c = false ∧ isLower c = false ∧ c ≠ 95) (t : List Nat) : Sep (c :: t) := by
  intro _ _ e; cases e; exact h

theorem Filler.nil : Filler [] := nofun

theorem nws_nil : NWS [] := nofun

theorem nws_cons {c : Nat} (h : isWs c = false) (t : List Nat) : NWS (c :: t) := by
  intro _ _ e; cases e; exact h

theorem isLower_iff {c : Nat} : isLower c = true ↔ 97 ≤ c ∧ c ≤ 122 := by
  unfold isLower; rw [Bool.and_eq_true, decide_eq_true_iff, decide_eq_true_iff]
theorem isDigit_iff {c : Nat} : isDigit c = true ↔ 48 ≤ c ∧ c ≤ 57 := by
  unfold isDigit; rw [Bool.and_eq_true, decide_eq_true_iff, decide_eq_true_iff]
theorem isWs_iff {c : Nat} : isWs c = true ↔ 9 ≤ c ∧ c < 33 := by
  unfold isWs; rw [Bool.and_eq_true, decide_eq_true_iff, decide_eq_true_iff]
theorem isLower_false {c : Nat} (h : c < 97 ∨ 122 < c) : isLower c = false := by rw [Bool.eq_false_iff, Ne, isLower_iff]; omega
theorem isDigit_false {c : Nat} (h : c < 48 ∨ 57 < c) : isDigit c = false := by rw [Bool.eq_false_iff, Ne, isDigit_iff]; omega
theorem isWs_false {c : Nat} (h : c < 9 ∨ 33 ≤ c) : isWs c = false := by rw [Bool.eq_false_iff, Ne, isWs_iff]; omega

theorem peek_cons {a : AS} {c : Nat} {t : List Nat} (h : a.rest = c :: t) : a.peek = c := by
  unfold AS.peek; rw [h]; rfl

theorem peekWs_cons {a : AS} {c : Nat} {t : List Nat} (h : a.skipWs.rest = c :: t) : peekWs a = (c, a.skipWs) := by
  unfold peekWs; rw [peek_cons h]

theorem skipWs_nws (a : AS) {k : List Nat} (hr : a.rest = k) (hk : NWS k) : a.skipWs.rest = k :=
  skipWs_spec a [] k hr Filler.nil hk

theorem filler_sep_head {ws k : List Nat} (hws : Filler ws) (hk : Sep k) :
    isLower ((ws ++ k).headD 0) = false ∧ isDigit ((ws ++ k).headD 0) = false ∧ (ws ++ k).headD 0 ≠ 95 := by
  cases ws with
  | nil =>
    cases k with
    | nil => exact ⟨rfl, rfl, by decide⟩
    | cons c r => have := hk c r rfl; exact ⟨this.2.2.1, this.2.1, this.2.2.2⟩
  | cons w ws' =>
    have := isWs_iff.1 (hws w (List.mem_cons_self ..))
    show isLower w = false ∧ isDigit w = false ∧ w ≠ 95
    exact ⟨isLower_false (by omega), isDigit_false (by omega), by omega⟩

theorem filler_sep_nds {ws k : List Nat} (hws : Filler ws) (hk : Sep k) : NDS (ws ++ k) := by
  intro c r e
  have := (filler_sep_head hws hk).2.1
  rwa [e] at this

theorem matchTok_present (a : AS) (w ws k : List Nat) (hr : a.rest = w ++ (ws ++ k)) (hws : Filler ws) (hk : NWS k) :
    (a.matchTok w).1 = true ∧ (a.matchTok w).2.skipWs.rest = k := by
  unfold AS.matchTok
  have hp : w.isPrefixOf a.rest = true := by rw [hr]; simp
  simp only [hp, ↓reduceIte, true_and]
  exact skipWs_spec _ ws k (by simp [hr]) hws hk

/-- **C10 (keywords and punctuation)**: a token followed by any filler is matched, the filler is skipped, and reading
    continues exactly at the continuation. -/
theorem C10_tok (a : AS) (w ws k : List Nat) (req : Bool) (hr : a.rest = w ++ (ws ++ k)) (hws : Filler ws) (hk : NWS k) :
    ∃ a', tok w req a = .ok (true, a') ∧ a'.rest = k := by
  obtain ⟨h1, h2⟩ := matchTok_present a w ws k hr hws hk
  exact ⟨_, by unfold tok; simp only [h1, ↓reduceIte], h2⟩

theorem not_prefix_cons {x c : Nat} (h : x ≠ c) (w t : List Nat) : (x :: w).isPrefixOf (c :: t) = false := by
  rw [List.isPrefixOf, beq_eq_false_iff_ne.2 h, Bool.false_and]

theorem tok_absent (a : AS) (w : List Nat) {t : List Nat} (hr : a.rest = t) (h : w.isPrefixOf t = false) :
    ∃ a', tok w false a = .ok (false, a') ∧ a'.rest = t := by
  unfold tok AS.matchTok
  simp only [hr, h, Bool.false_eq_true, ↓reduceIte]
  exact ⟨_, rfl, rfl⟩

/-- **C10 (integers)**: the decimal text of any 32-bit integer, after any filler and followed by any filler, is read as
    that integer. -/
theorem C10_int (a : AS) (v : Int) (ws0 ws k : List Nat) (hr : a.rest = ws0 ++ (printInt v ++ (ws ++ k)))
    (hws0 : Filler ws0) (hws : Filler ws) (hk : Sep k) (hv : I32MIN ≤ v ∧ v ≤ I32MAX) :
    ∃ a', int a = .ok (v, a') ∧ a'.rest = k := by
  have h64 : v.natAbs ≤ I64MAX := by unfold I32MIN I32MAX at hv; unfold I64MAX; omega
  obtain ⟨a1, h1, hr1⟩ := matchInt_printInt a v ws0 (ws ++ k) hr hws0 (filler_sep_nds hws hk) h64
  unfold int
  rw [h1]
  simp only [hv.1, hv.2, and_self, ↓reduceIte]
  exact ⟨_, rfl, skipWs_spec a1 ws k hr1 hws hk.nws⟩

theorem get_lower (a : AS) (c : Nat) (r : List Nat) (h : a.rest = c :: r) (hc : isLower c = true) :
    a.get = (c, { rest := r, line := a.line, canUnget := true }) := by
  have := isLower_iff.1 hc
  exact AS.get_plain h (by omega) (by omega) (by omega)

inductive Spelling where | letter | x | x_
deriving Repr, DecidableEq

def Spelling.text (n : Nat) : Spelling → List Nat
  | .letter => [96 + n]
  | .x => 120 :: printNat n
  | .x_ => 120 :: 95 :: printNat n

def Spelling.ok (n : Nat) : Spelling → Prop
  | .letter => 1 ≤ n ∧ n ≤ 26
  | _ => 1 ≤ n ∧ n ≤ 2147483647

theorem Spelling.ok_pos {n : Nat} {sp : Spelling} (h : sp.ok n) : 1 ≤ n := by cases sp <;> exact h.1

/-- **C10 (atom spellings)**: each spelling of an atom — a single letter for 1..26, `x<n>`, `x_<n>` for 1..2^31-1 —
    followed by any filler yields exactly that atom. -/
theorem C10_atom_spellings (a : AS) (n : Nat) (sp : Spelling) (ws k : List Nat) (hok : sp.ok n)
    (hr : a.rest = sp.text n ++ (ws ++ k)) (hws : Filler ws) (hk : Sep k) :
    ∃ a', ident a = .ok (n, a') ∧ a'.rest = k := by
  have hnum : ∀ a1 : AS, a1.rest = printNat n ++ (ws ++ k) → 1 ≤ n ∧ n ≤ 2147483647 →
      ∃ a', int a1 = .ok ((n : Int), a') ∧ (0 : Int) < n ∧ a'.rest = k := by
    intro a1 h1 hn
    obtain ⟨a2, h2, hr2⟩ := C10_int a1 (n : Int) [] ws k (by rw [printInt_nat]; exact h1) Filler.nil hws hk
      (by unfold I32MIN I32MAX; omega)
    exact ⟨a2, h2, by omega, hr2⟩
  cases sp with
  | letter =>
    have hl : isLower (96 + n) = true := isLower_iff.2 (by simp only [Spelling.ok] at hok; omega)
    have hg := get_lower a (96 + n) (ws ++ k) hr hl
    obtain ⟨h1, h2, h3⟩ := filler_sep_head hws hk
    have h95 : ((ws ++ k).headD 0 == 95) = false := beq_eq_false_iff_ne.2 h3
    refine ⟨_, ?_, skipWs_spec { rest := ws ++ k, line := a.line, canUnget := true } ws k rfl hws hk.nws⟩
    simp only [ident, hg, hl, AS.peek, h1, h2, h95, Bool.not_true, Bool.false_eq_true, ↓reduceIte, Bool.or_self, Bool.and_false]
    rw [show 96 + n - 97 + 1 = n from by have := hok.1; omega]
  | x =>
    have hg := get_lower a 120 (printNat n ++ (ws ++ k)) hr (by decide)
    obtain ⟨d, r', e, hd⟩ := printNat_head_digit n
    have hpk : (printNat n ++ (ws ++ k)).headD 0 = d := by rw [e]; rfl
    have hdl : isLower d = false ∧ (d == 95) = false := by
      have := isDigit_iff.1 hd; exact ⟨isLower_false (by omega), beq_eq_false_iff_ne.2 (by omega)⟩
    obtain ⟨a2, h2, hpos, hr2⟩ := hnum { rest := printNat n ++ (ws ++ k), line := a.line, canUnget := true } rfl hok
    refine ⟨a2, ?_, hr2⟩
    simp only [ident, hg, AS.peek, hpk, hdl.1, hdl.2, hd, show isLower 120 = true from rfl, Bool.not_true, Bool.false_eq_true, ↓reduceIte,
      beq_self_eq_true, Bool.true_or, Bool.and_self, h2, hpos, Int.toNat_natCast]
  | x_ =>
    have hg := get_lower a 120 (95 :: (printNat n ++ (ws ++ k))) hr (by decide)
    have hg2 : AS.get { rest := 95 :: (printNat n ++ (ws ++ k)), line := a.line, canUnget := true } = _ :=
      AS.get_plain rfl (by decide) (by decide) (by decide)
    obtain ⟨a2, h2, hpos, hr2⟩ := hnum { rest := printNat n ++ (ws ++ k), line := a.line, canUnget := true } rfl hok
    refine ⟨a2, ?_, hr2⟩
    simp only [ident, hg, AS.peek, List.headD_cons, show isLower 120 = true from rfl, show isLower 95 = false from rfl, Bool.not_true,
      Bool.false_eq_true, ↓reduceIte, beq_self_eq_true, Bool.or_true, Bool.and_self, hg2, h2, hpos, Int.toNat_natCast]

structure LitItem where
  neg     : Bool
  n       : Nat
  sp      : Spelling
  wsNot   : List Nat
  wsAfter : List Nat
deriving Repr, DecidableEq

def LitItem.text (i : LitItem) : List Nat :=
  (if i.neg then [110, 111, 116, 32] ++ i.wsNot else []) ++ (i.sp.text i.n ++ i.wsAfter)
def LitItem.val (i : LitItem) : Int := if i.neg then -(i.n : Int) else (i.n : Int)
def LitItem.ok (i : LitItem) : Prop := i.sp.ok i.n ∧ Filler i.wsNot ∧ Filler i.wsAfter

theorem lower_nws {l : List Nat} (h : ∃ c r, l = c :: r ∧ isLower c = true) : NWS l := by
  obtain ⟨c, r, rfl, hc⟩ := h
  exact nws_cons (isWs_false (by have := isLower_iff.1 hc; omega)) r

theorem spelling_head (n : Nat) (sp : Spelling) (h : sp.ok n) (t : List Nat) : ∃ c r, sp.text n ++ t = c :: r ∧ isLower c = true := by
  cases sp with
  | letter => exact ⟨96 + n, t, rfl, isLower_iff.2 (by simp only [Spelling.ok] at h; omega)⟩
  | x => exact ⟨120, _, rfl, rfl⟩
  | x_ => exact ⟨120, _, rfl, rfl⟩

theorem not_prefix_spelling (n : Nat) (sp : Spelling) (ws k : List Nat) (hws : Filler ws) (hk : Sep k) :
    ([110, 111, 116, 32] : List Nat).isPrefixOf (sp.text n ++ (ws ++ k)) = false := by
  cases sp with
  | letter =>
    -- what follows the letter is no letter, so not the `o` of `not`
    have hh := (filler_sep_head hws hk).1
    show ((110 : Nat) == 96 + n && ([111, 116, 32] : List Nat).isPrefixOf (ws ++ k)) = false
    generalize ws ++ k = l at hh
    cases l with
    | nil => exact Bool.and_false _
    | cons c r => rw [not_prefix_cons (by rintro rfl; cases hh), Bool.and_false]
  | x => rfl
  | x_ => rfl

/-- **C10 (literals)**: an atom in any spelling, optionally preceded by `not ` and any filler, followed by any filler,
    yields the positive or negative literal. -/
theorem C10_lit (a : AS) (i : LitItem) (k : List Nat) (hok : i.ok) (hr : a.rest = i.text ++ k) (hk : Sep k) :
    ∃ a', lit a = .ok (i.val, a') ∧ a'.rest = k := by
  obtain ⟨neg, n, sp, wsNot, wsAfter⟩ := i
  obtain ⟨hsp, hwn, hwa⟩ := hok
  unfold lit
  cases neg with
  | true =>
    simp only [LitItem.text, ↓reduceIte, List.append_assoc] at hr
    obtain ⟨a1, h1, hr1⟩ := C10_tok a [110, 111, 116, 32] wsNot _ false hr hwn (lower_nws (spelling_head n sp hsp _))
    obtain ⟨a2, h2, hr2⟩ := C10_atom_spellings a1 n sp wsAfter k hsp hr1 hwa hk
    exact ⟨a2, by simp only [h1, h2, LitItem.val, ↓reduceIte], hr2⟩
  | false =>
    simp only [LitItem.text, Bool.false_eq_true, ↓reduceIte, List.nil_append, List.append_assoc] at hr
    obtain ⟨a1, h1, hr1⟩ := tok_absent a [110, 111, 116, 32] hr (not_prefix_spelling n sp _ _ hwa hk)
    obtain ⟨a2, h2, hr2⟩ := C10_atom_spellings a1 n sp wsAfter k hsp hr1 hwa hk
    exact ⟨a2, by simp only [h1, h2, LitItem.val, Bool.false_eq_true, ↓reduceIte], hr2⟩

/-- each item carries the filler printed after its comma -/
def litsText : List (LitItem × List Nat) → List Nat
  | [] => []
  | [(i, _)] => i.text
  | (i, wc) :: rest => i.text ++ (44 :: (wc ++ litsText rest))

theorem litItem_head (i : LitItem) (hok : i.ok) (t : List Nat) : ∃ c r, i.text ++ t = c :: r ∧ isLower c = true := by
  unfold LitItem.text
  cases i.neg with
  | true => exact ⟨110, _, rfl, rfl⟩
  | false => rw [List.append_assoc, List.append_assoc]; exact spelling_head i.n i.sp hok.1 (i.wsAfter ++ t)

theorem litsText_head (items : List (LitItem × List Nat)) (hok : ∀ p ∈ items, p.1.ok ∧ Filler p.2) (t : List Nat) :
    items = [] ∨ ∃ c r, litsText items ++ t = c :: r ∧ isLower c = true := by
  cases items with
  | nil => exact Or.inl rfl
  | cons p rest =>
    have hp := (hok p (List.mem_cons_self ..)).1
    cases rest with
    | nil => exact Or.inr (litItem_head p.1 hp t)
    | cons q rest' => simp only [litsText, List.append_assoc]; exact Or.inr (litItem_head p.1 hp _)

theorem litsText_nws (items : List (LitItem × List Nat)) (hok : ∀ p ∈ items, p.1.ok ∧ Filler p.2) {k : List Nat} (hk : NWS k) :
    NWS (litsText items ++ k) := by
  rcases litsText_head items hok k with rfl | h
  · exact hk
  · exact lower_nws h

theorem litsLoop_spec (items : List (LitItem × List Nat)) (hne : items ≠ []) (hok : ∀ p ∈ items, p.1.ok ∧ Filler p.2)
    (k : List Nat) (hk : Sep k) (hk44 : ([44] : List Nat).isPrefixOf k = false) (f : Nat) (a : AS) (hf : a.rest.length < f) (acc : List Int)
    (hr : a.rest = litsText items ++ k) :
    ∃ a', litsLoop f a acc = .ok (acc ++ items.map (fun p => p.1.val), a') ∧ a'.rest = k := by
  induction items generalizing f a acc with
  | nil => exact absurd rfl hne
  | cons p rest ih =>
    obtain ⟨i, wc⟩ := p
    obtain ⟨hi, hok'⟩ := List.forall_mem_cons.1 hok
    cases f with
    | zero => omega
    | succ f =>
      cases rest with
      | nil =>
        obtain ⟨a1, h1, hr1⟩ := C10_lit a i k hi.1 hr hk
        obtain ⟨a2, h2, hr2⟩ := tok_absent a1 [44] hr1 hk44
        exact ⟨a2, by simp only [litsLoop, h1, h2, List.map_cons, List.map_nil], hr2⟩
      | cons q rest' =>
        simp only [litsText, List.append_assoc, List.cons_append] at hr
        obtain ⟨a1, h1, hr1⟩ := C10_lit a i _ hi.1 hr (Sep.cons (by decide) _)
        obtain ⟨a2, h2, hr2⟩ := C10_tok a1 [44] wc (litsText (q :: rest') ++ k) false hr1 hi.2 (litsText_nws _ hok' hk.nws)
        obtain ⟨a3, h3, hr3⟩ := ih (by simp) hok' f a2 (by rw [hr] at hf; rw [hr2]; simp only [List.length_append, List.length_cons] at hf ⊢; omega) (acc ++ [i.val]) hr2
        exact ⟨a3, by simp only [litsLoop, h1, h2, h3, List.map_cons, List.append_assoc, List.singleton_append], hr3⟩

/-- **C10 (literal lists)**: a comma-separated list of literals of any length, with any spelling per atom and any filler
    after `not `, after every atom and after every comma, is read as exactly that list, and reading continues at the
    continuation (which is a separator other than a comma: `.`, `}`, …). -/
theorem C10_lits (a : AS) (items : List (LitItem × List Nat)) (hne : items ≠ []) (hok : ∀ p ∈ items, p.1.ok ∧ Filler p.2)
    (k : List Nat) (hk : Sep k) (hk44 : ([44] : List Nat).isPrefixOf k = false) (hr : a.rest = litsText items ++ k) :
    ∃ a', lits a = .ok (items.map (fun p => p.1.val), a') ∧ a'.rest = k := by
  obtain ⟨c, r, e, hc⟩ := (litsText_head items hok k).resolve_left hne
  have hs : a.skipWs.rest = litsText items ++ k := skipWs_nws a hr (lower_nws ⟨c, r, e, hc⟩)
  unfold lits peekWs
  simp only [peek_cons (hs.trans e), hc, ↓reduceIte]
  exact litsLoop_spec items hne hok k hk hk44 _ a.skipWs (Nat.lt_succ_self _) [] hs

theorem lits_spec (a : AS) (items : List (LitItem × List Nat)) (hok : ∀ p ∈ items, p.1.ok ∧ Filler p.2)
    (k : List Nat) (hk : Sep k) (hk44 : ([44] : List Nat).isPrefixOf k = false) (hr : a.rest = litsText items ++ k) :
    ∃ a', lits a = .ok (items.map (fun p => p.1.val), a') ∧ a'.rest = k := by
  by_cases hne : items = []
  · subst hne
    have hs : a.skipWs.rest = k := skipWs_nws a hr hk.nws
    have hl : isLower a.skipWs.peek = false := by
      unfold AS.peek; rw [hs]; exact (filler_sep_head Filler.nil hk).1
    unfold lits peekWs
    simp only [hl, Bool.false_eq_true, ↓reduceIte, List.map_nil]
    exact ⟨_, rfl, hs⟩
  · exact C10_lits a items hne hok k hk hk44 hr

/-- **C10 (layout is irrelevant, token level)**: two texts of the same literal list that differ only in fillers and
    spellings are read as the same list and leave the same continuation. -/
theorem C10_layout_irrelevant_token (a b : AS) (items items' : List (LitItem × List Nat)) (hne : items ≠ []) (hne' : items' ≠ [])
    (hok : ∀ p ∈ items, p.1.ok ∧ Filler p.2) (hok' : ∀ p ∈ items', p.1.ok ∧ Filler p.2)
    (hsame : items.map (fun p => p.1.val) = items'.map (fun p => p.1.val))
    (k : List Nat) (hk : Sep k) (hk44 : ([44] : List Nat).isPrefixOf k = false)
    (hra : a.rest = litsText items ++ k) (hrb : b.rest = litsText items' ++ k) :
    ∃ a' b', lits a = .ok (items.map (fun p => p.1.val), a') ∧ lits b = .ok (items.map (fun p => p.1.val), b') ∧ a'.rest = b'.rest := by
  obtain ⟨a', h1, hr1⟩ := C10_lits a items hne hok k hk hk44 hra
  obtain ⟨b', h2, hr2⟩ := C10_lits b items' hne' hok' k hk hk44 hrb
  exact ⟨a', b', h1, hsame ▸ h2, hr1.trans hr2.symm⟩

/-! the model on `a :- b,␤not x_3.` and on `{a;b}:-2{c=2,d=0}.` -/
example : (TextIn.read [97, 32, 58, 45, 32, 98, 44, 10, 110, 111, 116, 32, 120, 95, 51, 46]).calls =
    [.initProgram false, .beginStep, .rule 0 [1] [2, -3], .endStep] := by decide +kernel
example : (TextIn.read [97, 32, 58, 45, 32, 98, 44, 10, 110, 111, 116, 32, 120, 95, 51, 46]).err = none := by decide +kernel
example : (TextIn.read [123, 97, 59, 98, 125, 58, 45, 50, 123, 99, 61, 50, 44, 100, 61, 48, 125, 46]).calls =
    [.initProgram false, .beginStep, .sumRule 1 [1, 2] 2 [(3, 2)], .endStep] := by decide +kernel
end PotasscoVerif.C10
