/-
  C09 — the line number: one plus the newlines `get` has delivered (the last clause of the statement,
  made explicit for clients that read character by character).
-/
import PotasscoVerif.Props.C09
namespace PotasscoVerif.C09
open PotasscoVerif.BufferedStream PotasscoVerif.CharStream

/-- CR, CRLF and LF all arrive as 10. -/
theorem get_line (a : AS) : a.get.2.line = a.line + (if a.get.1 = 10 then 1 else 0) := by
  rcases a.get_cases with ⟨_, h, _, hl⟩ | ⟨h, hl, _⟩ | ⟨_, hl, _, h, _⟩
  · rw [hl, h]; rfl
  · rw [hl, h]; rfl
  · rw [hl, if_neg h]; rfl

def getsA : Nat → AS → List Nat × AS
  | 0, a => ([], a)
  | k + 1, a => ((a.get.1 :: (getsA k a.get.2).1), (getsA k a.get.2).2)

def newlines (cs : List Nat) : Nat := (cs.filter (· == 10)).length

theorem line_gets (k : Nat) (a : AS) : (getsA k a).2.line = a.line + newlines (getsA k a).1 := by
  induction k generalizing a with
  | zero => simp [getsA, newlines]
  | succ k ih =>
    simp only [getsA]
    rw [ih, get_line]
    unfold newlines
    by_cases h : a.get.1 = 10
    · simp [h]; omega
    · have : (a.get.1 == 10) = false := by simpa using h
      simp [h, this]

theorem run_gets (k : Nat) (a : AS) :
    AS.run a (List.replicate k .get ++ [.line]) =
      (getsA k a).1.map Obs.char ++ [.nat ((getsA k a).2.line % 4294967296)] := by
  induction k generalizing a with
  | zero => simp [AS.run, AS.step, getsA]
  | succ k ih =>
    simp only [List.replicate_succ, List.cons_append, AS.run, AS.step, getsA, List.map_cons]
    rw [ih]

theorem adm_gets (B k : Nat) (a : AS) : AdmAll B a (List.replicate k .get ++ [.line]) := by
  induction k generalizing a with
  | zero => simp [AdmAll, Adm]
  | succ k ih => simp only [List.replicate_succ, List.cons_append, AdmAll, Adm, true_and]; exact ih _

/-- **Line number.** A client that reads `k` characters with `get` from the buffered stream — any buffer
    size `B ≥ 2`, any NUL-free input — receives the characters of the abstract stream (CR / CRLF as one
    newline) and then reads the line number `1 + (newlines received)` (as the `unsigned` the code keeps). -/
theorem C09_line_number (B : Nat) (hB : 2 ≤ B) (input : List Nat) (hn : ∀ c ∈ input, c ≠ 0) (k : Nat) :
    run B (BS.init B input) (List.replicate k .get ++ [.line]) =
      (getsA k (AS.init input)).1.map Obs.char ++
        [.nat ((1 + newlines (getsA k (AS.init input)).1) % 4294967296)] := by
  rw [C09_transparent B hB input hn _ (adm_gets B k _), run_gets, line_gets]
  rfl

/-- non-vacuity: CR, CRLF and LF are three newlines; the fourth line is reported. -/
example : run 2 (BS.init 2 [97, 13, 98, 13, 10, 10, 99]) (List.replicate 6 .get ++ [.line]) =
    [.char 97, .char 10, .char 98, .char 10, .char 10, .char 99, .nat 4] := by decide

end PotasscoVerif.C09
