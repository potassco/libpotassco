/-
  C03 / C07 (continued) — the grammar theorems for the readers driven step by step.  `C01_modes` / `C05_modes` carry the theorems of
  Props/C03c.lean and Props/C07b.lean over to `readInc`: a client that reads one step at a time accepts exactly the same texts and is handed
  exactly the same directives.
-/
import PotasscoVerif.Props.C01m
import PotasscoVerif.Props.C05m
import PotasscoVerif.Props.C07b
namespace PotasscoVerif.C03m
open PotasscoVerif PotasscoVerif.CharStream

theorem C03_complete_steps (t : List Nat) (inc : Bool) (cs : List Call) (h : C03.Prog true t inc cs) :
    AspifIn.readInc t = { calls := .initProgram inc :: cs, err := none } := by
  rw [C01m.C01_modes]; exact C03.C03_complete t inc cs h

theorem C03_sound_steps (t : List Nat) (calls : List Call) (hnul : ∀ c ∈ t, c ≠ 0) (h : AspifIn.readInc t = { calls := calls, err := none }) :
    ∃ inc cs, calls = .initProgram inc :: cs ∧ C03.Prog false t inc cs := by
  rw [C01m.C01_modes] at h; exact C03.C03_sound t calls hnul h

theorem C03_rejects_steps (t : List Nat) (hnul : ∀ c ∈ t, c ≠ 0) (hno : ∀ inc cs, ¬ C03.Prog false t inc cs) : (AspifIn.readInc t).err ≠ none := by
  rw [C01m.C01_modes]; exact C03.C03_rejects t hnul hno

theorem C07_complete_steps (ext : Bool) (t : List Nat) (inc : Bool) (cs : List Call) (h : C07.Prog7 true ext t inc cs) :
    SmodelsIn.readInc ext t = { calls := .initProgram inc :: cs, err := none } := by
  rw [C05m.C05_modes]; exact C07.C07_complete ext t inc cs h

theorem C07_sound_steps (ext : Bool) (t : List Nat) (calls : List Call) (hnul : ∀ c ∈ t, c ≠ 0)
    (h : SmodelsIn.readInc ext t = { calls := calls, err := none }) :
    ∃ inc cs, calls = .initProgram inc :: cs ∧ C07.Prog7 false ext t inc cs := by
  rw [C05m.C05_modes] at h; exact C07.C07_sound ext t calls hnul h

theorem C07_rejects_steps (ext : Bool) (t : List Nat) (hnul : ∀ c ∈ t, c ≠ 0) (hno : ∀ inc cs, ¬ C07.Prog7 false ext t inc cs) :
    (SmodelsIn.readInc ext t).err ≠ none := by
  rw [C05m.C05_modes]; exact C07.C07_rejects ext t hnul hno

end PotasscoVerif.C03m
