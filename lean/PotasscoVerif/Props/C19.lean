/-
  C19 — help and default-command-line output list exactly the visible options, safely.
  Theorems about Model/OptFormat.lean (tied to src/program_options.cpp by the `of` correspondence).
-/
import PotasscoVerif.Model.OptFormat
import PotasscoVerif.Props.C13
namespace PotasscoVerif.C19
open PotasscoVerif.Options PotasscoVerif.OptFormat

/-- the text written before padding -/
def headText (o : OptSpec) : List Nat :=
  let arg := argName o
  let np : List Nat := if o.negatable && arg.isEmpty then [91, 110, 111, 45, 93] else []
  let ap : List Nat := if o.negatable && !arg.isEmpty then [124, 110, 111] else []
  [32, 32, 45, 45] ++ np ++ o.name
    ++ (if o.implicit && !arg.isEmpty then [91, 61] ++ arg ++ ap ++ [93] else [])
    ++ (if o.alias != 0 then [44, 45, o.alias] else [])
    ++ (if !o.implicit then (if o.alias == 0 then 61 else 32) :: (arg ++ ap) else [])

theorem text_ite_sprintf (c : Prop) [Decidable c] (b : FB) (s : List Nat) :
    (if c then b.sprintf s else b).text = b.text ++ if c then s else [] := by
  split
  · rfl
  · exact (List.append_nil _).symm

/-- The flag of a buffer of capacity `cap` says exactly whether the text with its NUL has outgrown it.  True of the empty
    buffer and kept by every `sprintf`, so one comparison at the end decides whether any write overran. -/
def Tight (b : FB) (cap : Nat) : Prop := b.cap = cap ∧ (b.viol = true ↔ cap ≤ b.text.length)

theorem Tight.sprintf {b : FB} {cap : Nat} (h : Tight b cap) (s : List Nat) : Tight (b.sprintf s) cap := by
  refine ⟨h.1, ?_⟩
  simp only [FB.sprintf, h.1, h.2, List.length_append, Bool.or_eq_true, decide_eq_true_eq]
  omega

theorem Tight.ite {b : FB} {cap : Nat} (h : Tight b cap) (c : Prop) [Decidable c] (s : List Nat) :
    Tight (if c then b.sprintf s else b) cap := by
  split
  · exact h.sprintf s
  · exact h

theorem formatOpt_spec (o : OptSpec) (maxW : Nat) :
    (formatOpt o maxW).text = headText o ++ List.replicate (maxW - (headText o).length) 32 ∧
    ∃ cap, max maxW (maxColumn o) + 3 ≤ cap ∧ Tight (formatOpt o maxW) cap := by
  unfold formatOpt
  extract_lets arg np ap b0 b1 b2 b3 b4
  have h4 : b4.text = headText o := by
    simp only [b4, b3, b2, b1, b0, text_ite_sprintf, headText, arg, np, ap]; rfl
  constructor
  · rw [text_ite_sprintf, h4]; split
    · rfl
    · rw [Nat.sub_eq_zero_of_le (by omega)]; rfl
  · have t0 : Tight b0 b0.cap := ⟨rfl, by simp [b0]⟩
    exact ⟨_, Nat.le_add_right _ _, (((((t0.sprintf _).ite _ _).ite _ _).ite _ _).ite _ _)⟩

theorem headText_length (o : OptSpec) : (headText o).length ≤ maxColumn o + 1 := by
  unfold headText maxColumn
  generalize argName o = arg
  simp only [List.length_append, List.length_cons, List.length_nil, apply_ite List.length, Nat.zero_add, Nat.reduceAdd]
  generalize (if (o.alias != 0) = true then 3 else 0) = al
  rcases arg with _ | ⟨a0, ar⟩
  · cases o.negatable <;> cases o.implicit <;> simp <;> omega
  · -- with an argument name, negation adds the same `|no` to both sides
    cases o.implicit <;> simp <;> omega

/-- **C19 (entry shape and column)**: the option column is `  --[no-]name[=arg|no],-a …` padded with blanks to `maxW`;
    it is never shorter than `maxW`, and the estimate `maxColumn` is off by at most one character. -/
theorem C19_column (o : OptSpec) (maxW : Nat) :
    (formatOpt o maxW).text = headText o ++ List.replicate (maxW - (headText o).length) 32 ∧
    maxW ≤ (formatOpt o maxW).text.length ∧ (headText o).length ≤ maxColumn o + 1 := by
  refine ⟨(formatOpt_spec o maxW).1, ?_, headText_length o⟩
  rw [(formatOpt_spec o maxW).1, List.length_append, List.length_replicate]; omega

/-- **C19 (buffer safety)**: whatever the lengths of name and argument name, with or without alias, implicit value and
    negation, every `sprintf` of `DefaultFormat::format(buf, option, maxW)` — including its terminating NUL — stays inside
    the buffer of `max(maxW, maxColumn) + 3 (+3)` characters. -/
theorem C19_sprintf_safe (o : OptSpec) (maxW : Nat) : (formatOpt o maxW).viol = false := by
  obtain ⟨ht, cap, hc, -, hv⟩ := formatOpt_spec o maxW
  have := headText_length o
  rw [← Bool.not_eq_true, hv, ht, List.length_append, List.length_replicate]; omega

inductive Seg where
  | lit (s : List Nat) | dflt | arg | impl | pct
deriving Repr, DecidableEq

def Seg.enc : Seg → List Nat
  | .lit s => s | .dflt => [37, 68] | .arg => [37, 65] | .impl => [37, 73] | .pct => [37, 37]
def Seg.out (o : OptSpec) : Seg → List Nat
  | .lit s => s | .dflt => o.dflt.getD [] | .arg => argName o | .impl => implicitStr o | .pct => [37]
def Seg.ok : Seg → Prop
  | .lit s => ∀ c ∈ s, c ≠ 37
  | _ => True

theorem descLoop_lit (o : OptSpec) (f : Nat) (s t acc : List Nat) (h : ∀ c ∈ s, c ≠ 37) :
    descLoop o (f + 1) (s ++ t) acc = descLoop o (f + 1) t (acc ++ s) := by
  have hp : ∀ a ∈ s, (a != 37) = true := fun a ha => by simpa using h a ha
  show (match List.dropWhile _ (s ++ t) with | [] => _ | [_] => _ | _ :: c :: rest => _) = (match List.dropWhile _ t with | [] => _ | [_] => _ | _ :: c :: rest => _)
  rw [List.takeWhile_append_of_pos hp, List.dropWhile_append_of_pos hp, ← List.append_assoc acc s]

theorem descLoop_pct (o : OptSpec) (f c : Nat) (t acc : List Nat) :
    descLoop o (f + 1) (37 :: c :: t) acc = descLoop o f t
      (if c == 68 then acc ++ o.dflt.getD [] else if c == 65 then acc ++ argName o else if c == 73 then acc ++ implicitStr o else acc ++ [c]) := by
  show descLoop o f t (if c == 68 then (acc ++ []) ++ _ else if c == 65 then (acc ++ []) ++ _ else if c == 73 then (acc ++ []) ++ _ else (acc ++ []) ++ _) = _
  rw [List.append_nil]

theorem descLoop_segs (o : OptSpec) (segs : List Seg) (hok : ∀ s ∈ segs, s.ok) (f : Nat) (acc : List Nat)
    (hf : (segs.flatMap Seg.enc).length < f) : descLoop o f (segs.flatMap Seg.enc) acc = acc ++ segs.flatMap (Seg.out o) := by
  -- the two characters of a placeholder pay for the round of the loop they use up
  have fuel_pct : ∀ {x f : Nat}, 2 + x < f + 1 → x < f := by omega
  induction segs generalizing f acc with
  | nil =>
    cases f with
    | zero => exact absurd hf (Nat.not_lt_zero _)
    | succ f => exact (List.append_nil _).trans (List.append_nil _).symm
  | cons sg rest ih =>
    have hrest : ∀ s ∈ rest, s.ok := fun s hs => hok s (List.mem_cons_of_mem _ hs)
    rw [List.flatMap_cons, List.length_append] at hf
    rw [List.flatMap_cons, List.flatMap_cons, ← List.append_assoc]
    cases f with
    | zero => exact absurd hf (Nat.not_lt_zero _)
    | succ f =>
      cases sg with
      | lit s => exact (descLoop_lit o f s _ acc (hok _ (List.mem_cons_self ..))).trans (ih hrest _ _ (Nat.lt_of_le_of_lt (Nat.le_add_left ..) hf))
      | dflt | arg | impl | pct =>
        exact (descLoop_pct o f _ _ acc).trans (ih hrest f _ (fuel_pct hf))

/-- **C19 (placeholders)**: a description made of literal pieces (without '%') and the placeholders %D %A %I %% is rendered
    as `: ` + the pieces with default value, argument name, implicit value and a percent sign + newline. -/
theorem C19_placeholders (o : OptSpec) (segs : List Seg) (hok : ∀ s ∈ segs, s.ok) (hd : o.desc = segs.flatMap Seg.enc) :
    formatDesc o = [58, 32] ++ segs.flatMap (Seg.out o) ++ [10] := by
  rw [formatDesc, hd, descLoop_segs o segs hok _ [] (Nat.lt_succ_self _), List.nil_append]

/-- the options printed at active level `dl`, in print order -/
def printedOpts (c : Context) (dl : Nat) : List Nat :=
  (printOrder c).flatMap (fun g => if groupLevel c g ≤ dl then (members c g).filter (fun k => (optOf c k).level ≤ dl) else [])

def entry (c : Context) (dl : Nat) (k : Nat) : List Nat := (formatOpt (optOf c k) (maxWidth c dl)).text ++ formatDesc (optOf c k)

theorem foldl_cond_append {α : Type} (l : List α) (p : α → Prop) [DecidablePred p] (g : List Nat → α → List Nat) (f : α → List Nat)
    (hg : ∀ out x, g out x = out ++ f x) (init : List Nat) :
    l.foldl (fun out x => if p x then g out x else out) init = init ++ l.flatMap (fun x => if p x then f x else []) := by
  induction l generalizing init with
  | nil => exact (List.append_nil _).symm
  | cons a r ih =>
    rw [List.foldl_cons, ih, List.flatMap_cons]
    split
    · rw [hg, List.append_assoc]
    · rfl

theorem flatMap_ite {α : Type} (l : List α) (p : α → Prop) [DecidablePred p] (f : α → List Nat) :
    l.flatMap (fun x => if p x then f x else []) = (l.filter (fun x => decide (p x))).flatMap f := by
  induction l with
  | nil => rfl
  | cons a r ih =>
    rw [List.flatMap_cons, ih, List.filter_cons]
    by_cases h : p a
    · rw [if_pos h, if_pos (decide_eq_true h), List.flatMap_cons]
    · rw [if_neg h, if_neg (by simpa using h)]; rfl

/-- **C19 (description shape)**: the description is, for the sub-groups in the order they were added and then the first
    group, and only for groups whose level does not exceed the active level: the caption, then one entry for each member
    option whose own level does not exceed the active level, in the order they were added. -/
theorem C19_description_shape (c : Context) (dl : Nat) :
    description c dl = (printOrder c).flatMap (fun g =>
      if groupLevel c g ≤ dl then formatGroup g ++ ((members c g).filter (fun k => (optOf c k).level ≤ dl)).flatMap (entry c dl) else []) := by
  have inner : ∀ g out, formatMembers c g (maxWidth c dl) dl out = out ++ ((members c g).filter (fun k => (optOf c k).level ≤ dl)).flatMap (entry c dl) :=
    fun g out => by
      rw [← flatMap_ite]
      exact foldl_cond_append _ _ _ (entry c dl) (fun _ _ => List.append_assoc ..) out
  exact foldl_cond_append _ (fun g => groupLevel c g ≤ dl) _ _ (fun out g => (inner g _).trans (List.append_assoc ..)) []

theorem mem_dedup (l : List Nat) (x : Nat) : x ∈ dedup l ↔ x ∈ l := by
  induction l with
  | nil => exact Iff.rfl
  | cons a r ih =>
    rw [dedup, List.mem_cons, List.mem_cons, List.mem_filter, ih, bne_iff_ne]
    exact ⟨fun h => h.imp_right And.left, fun h => (Decidable.em (x = a)).imp_right fun e => ⟨h.resolve_left e, e⟩⟩

theorem nodup_dedup (l : List Nat) : (dedup l).Nodup := by
  induction l with
  | nil => exact List.nodup_nil
  | cons a r ih => exact List.nodup_cons.mpr ⟨fun h => by simpa using (List.mem_filter.mp h).2, ih.filter _⟩

theorem printOrder_perm (c : Context) : (printOrder c).Perm (groupIds c) := by
  unfold printOrder
  cases groupIds c with
  | nil => exact .nil
  | cons a r => exact List.perm_append_comm (l₁ := r) (l₂ := [a])

theorem mem_printOrder (c : Context) (g : Nat) : g ∈ printOrder c ↔ g ∈ c.opts.map (·.group) :=
  (printOrder_perm c).mem_iff.trans (mem_dedup ..)

theorem nodup_printOrder (c : Context) : (printOrder c).Nodup := (printOrder_perm c).nodup_iff.mpr (nodup_dedup _)

theorem mem_members (c : Context) (g k : Nat) : k ∈ members c g ↔ k < c.opts.length ∧ (optOf c k).group = g := by
  simp [members]

theorem optOf_group_mem (c : Context) (k : Nat) (hk : k < c.opts.length) : (optOf c k).group ∈ c.opts.map (·.group) := by
  have : optOf c k = c.opts[k] := by simp [optOf, List.getD, hk]
  rw [this]; exact List.mem_map_of_mem (List.getElem_mem hk)

/-- **C19 (visible options, exactly once)**: the options printed at active level `dl` are exactly those whose own level and
    whose group's level do not exceed `dl` — no option above the level is listed — and none is listed twice. -/
theorem C19_visible_exactly_once (c : Context) (dl : Nat) :
    (printedOpts c dl).Nodup ∧
    ∀ k, k ∈ printedOpts c dl ↔ (k < c.opts.length ∧ (optOf c k).level ≤ dl ∧ groupLevel c (optOf c k).group ≤ dl) := by
  have hmem : ∀ g k, k ∈ (if groupLevel c g ≤ dl then (members c g).filter (fun k => (optOf c k).level ≤ dl) else []) ↔
      groupLevel c g ≤ dl ∧ (k < c.opts.length ∧ (optOf c k).group = g) ∧ (optOf c k).level ≤ dl := by
    intro g k
    split
    · rw [List.mem_filter, mem_members, decide_eq_true_eq]; exact ⟨fun h => ⟨‹_›, h⟩, And.right⟩
    · exact ⟨fun h => (nomatch h), fun h => absurd h.1 ‹_›⟩
  constructor
  · refine List.pairwise_flatMap.mpr ⟨fun g _ => ?_, (nodup_printOrder c).imp fun hne x hx y hy e => hne ?_⟩
    · split
      · exact (List.filter_sublist).nodup ((List.filter_sublist).nodup List.nodup_range)
      · exact List.nodup_nil
    · rw [← ((hmem _ x).mp hx).2.1.2, ← ((hmem _ y).mp hy).2.1.2, e]
  · intro k
    rw [printedOpts, List.mem_flatMap]
    constructor
    · rintro ⟨g, _, hk⟩
      obtain ⟨hg, ⟨hlt, rfl⟩, hl⟩ := (hmem g k).mp hk
      exact ⟨hlt, hl, hg⟩
    · rintro ⟨hk, hl, hg⟩
      exact ⟨_, (mem_printOrder c _).mpr (optOf_group_mem c k hk), (hmem _ k).mpr ⟨hg, ⟨hk, rfl⟩, hl⟩⟩

theorem setActive_caps (x : Nat) : activeLevel x ≤ 4 := by unfold activeLevel; omega
/-- options at level `hidden` (5) are never listed, whatever level is requested -/
theorem hidden_never_printed (c : Context) (x k : Nat) (h : 5 ≤ (optOf c k).level) : k ∉ printedOpts c (activeLevel x) := by
  intro hm
  have := ((C19_visible_exactly_once c (activeLevel x)).2 k).mp hm
  have := setActive_caps x; omega

def optWord (o : OptSpec) (d : List Nat) : List Nat := 45 :: 45 :: (o.name ++ 61 :: d)
/-- the words the default command line is meant to consist of -/
def wantWords (c : Context) (ks : List Nat) : List (List Nat) := ks.filterMap (fun k => (optOf c k).dflt.map (optWord (optOf c k)))
def wantPairs (c : Context) (ks : List Nat) : List (Nat × List Nat) := ks.filterMap (fun k => (optOf c k).dflt.map (fun d => (k, d)))

theorem defaults_eq_fold (c : Context) (dl n : Nat) :
    defaults c dl n = ((printedOpts c dl).foldl (fun st k => defaultsStep n st (optOf c k)) (([] : List Nat), n)).1 := by
  unfold defaults printedOpts
  rw [List.foldl_flatMap]
  congr 1
  congr 1
  funext st g
  split
  · rw [List.foldl_filter]; congr 1; funext st k; simp
  · rfl

def shape : List (List Nat × List Nat) → List Nat
  | [] => []
  | (sep, tok) :: r => sep ++ tok ++ 32 :: shape r

theorem shape_append (a b : List (List Nat × List Nat)) : shape (a ++ b) = shape a ++ shape b := by
  induction a with
  | nil => rfl
  | cons p r ih => obtain ⟨sep, tok⟩ := p; simp [shape, ih]

theorem defaultsStep_some (n : Nat) (st : List Nat × Nat) (o : OptSpec) (d : List Nat) (hd : o.dflt = some d) :
    ∃ sep, (∀ ch ∈ sep, isCSpace ch = true) ∧ (defaultsStep n st o).1 = st.1 ++ (sep ++ optWord o d ++ 32 :: []) := by
  unfold defaultsStep
  rw [hd]
  dsimp only
  split
  · refine ⟨10 :: List.replicate n 32, fun ch h => ?_, by simp only [optWord, List.append_assoc, List.cons_append, List.nil_append]⟩
    obtain rfl | h := List.mem_cons.mp h
    · rfl
    · rw [(List.mem_replicate.mp h).2]; rfl
  · exact ⟨[], fun _ h => (nomatch h), by simp only [optWord, List.append_assoc, List.cons_append, List.nil_append]⟩

theorem fold_shape (c : Context) (n : Nat) (ks : List Nat) (st : List Nat × Nat) :
    ∃ ps, (ks.foldl (fun st k => defaultsStep n st (optOf c k)) st).1 = st.1 ++ shape ps ∧ ps.map Prod.snd = wantWords c ks ∧
      ∀ p ∈ ps, ∀ ch ∈ p.1, isCSpace ch = true := by
  induction ks generalizing st with
  | nil => exact ⟨[], (List.append_nil _).symm, rfl, fun _ h => nomatch h⟩
  | cons k r ih =>
    rw [List.foldl_cons]
    obtain ⟨ps, h1, h2, h3⟩ := ih (defaultsStep n st (optOf c k))
    cases hd : (optOf c k).dflt with
    | none =>
      have e : defaultsStep n st (optOf c k) = st := by unfold defaultsStep; rw [hd]
      rw [e] at h1 ⊢
      exact ⟨ps, h1, by rw [h2, wantWords, wantWords, List.filterMap_cons, hd]; rfl, h3⟩
    | some d =>
      obtain ⟨sep, hsep, e⟩ := defaultsStep_some n st _ d hd
      refine ⟨(sep, optWord (optOf c k) d) :: ps, ?_, ?_, ?_⟩
      · rw [h1, e, shape]; simp only [List.append_assoc, List.cons_append, List.nil_append]
      · rw [List.map_cons, h2, wantWords, wantWords, List.filterMap_cons, hd]; rfl
      · intro p hp
        obtain rfl | hp := List.mem_cons.mp hp
        · exact hsep
        · exact h3 p hp

/-- a word without the characters the command-string tokenizer treats specially: blank, quotes, backslash -/
def PlainTok (t : List Nat) : Prop := ∀ ch ∈ t, ch ≠ 32 ∧ ch ≠ 34 ∧ ch ≠ 39 ∧ ch ≠ 92

theorem reads_plain (t : List Nat) (hp : PlainTok t) (hd : ∃ r, t = 45 :: r) : C13.Reads t t := by
  obtain ⟨r, hr⟩ := hd
  refine ⟨⟨45, r, hr, by decide⟩, fun rest f hrest hf => ?_⟩
  suffices h : ∀ acc, csToken f (t ++ rest) 32 acc = (acc.reverse ++ t, rest) from h []
  clear hr
  induction t generalizing f with
  | nil =>
    intro acc
    obtain ⟨g, rfl⟩ : ∃ g, f = g + 1 := ⟨f - 1, by omega⟩
    rw [List.nil_append, C13.step_end _ _ _ hrest, List.append_nil]
  | cons ch t ih =>
    intro acc
    obtain ⟨g, rfl⟩ : ∃ g, f = g + 1 := ⟨f - 1, by omega⟩
    obtain ⟨h32, h34, h39, h92⟩ := hp ch (List.mem_cons_self ..)
    rw [List.cons_append, C13.step_char _ ch _ 32 acc h32 (fun _ => ⟨h39, h34⟩) h92,
      ih (fun x hx => hp x (List.mem_cons_of_mem _ hx)) g (by simp only [List.length_cons] at hf; omega), List.reverse_cons,
      List.append_assoc, List.singleton_append]

theorem csTokens_shape (ps : List (List Nat × List Nat)) (pre : List Nat) (f : Nat) (acc : List (List Nat))
    (hpre : ∀ ch ∈ pre, isCSpace ch = true)
    (hps : ∀ p ∈ ps, (∀ ch ∈ p.1, isCSpace ch = true) ∧ C13.Reads p.2 p.2) (hf : (shape ps).length < f) :
    csTokens f (pre ++ shape ps) acc = acc.reverse ++ ps.map Prod.snd := by
  induction ps generalizing pre f acc with
  | nil => rw [shape, List.append_nil, C13.csTokens_blanks f pre acc hpre, List.map_nil, List.append_nil]
  | cons p r ih =>
    obtain ⟨sep, tok⟩ := p
    obtain ⟨g, rfl⟩ : ∃ g, f = g + 1 := ⟨f - 1, by omega⟩
    obtain ⟨hsep, htok⟩ := hps (sep, tok) (List.mem_cons_self ..)
    have hsp : ∀ ch ∈ pre ++ sep, isCSpace ch = true := fun ch h => (List.mem_append.mp h).elim (hpre ch) (hsep ch)
    rw [shape, List.append_assoc, ← List.append_assoc pre, C13.csTokens_read g _ tok tok _ acc hsp htok (Or.inr ⟨_, rfl⟩),
      ← List.singleton_append, ih [32] g (tok :: acc) (by simp [isCSpace]) (fun p hp => hps p (List.mem_cons_of_mem _ hp))
        (by simp only [shape, List.length_append, List.length_cons] at hf; omega)]
    simp

theorem optWord_plain (o : OptSpec) (d : List Nat) (hn : PlainTok o.name) (hd : PlainTok d) : PlainTok (optWord o d) := by
  intro ch hch
  simp only [optWord, List.mem_cons, List.mem_append] at hch
  rcases hch with rfl | rfl | h | rfl | h
  · decide
  · decide
  · exact hn ch h
  · decide
  · exact hd ch h

/-- **C19 (default command line, words)**: when the names and default values of the listed options are single plain
    tokens (no blank, quote or backslash — outside that region the real code does not round-trip: finding D12), the
    command-string tokenizer splits the default command line, including its line wraps and indentation, into exactly the
    words `--name=default` of the visible options that have a default, in print order. -/
theorem C19_defaults_tokens (c : Context) (dl n : Nat)
    (hplain : ∀ k ∈ printedOpts c dl, ∀ d, (optOf c k).dflt = some d → PlainTok (optOf c k).name ∧ PlainTok d) :
    tokenize (defaults c dl n) = wantWords c (printedOpts c dl) := by
  obtain ⟨ps, h1, h2, h3⟩ := fold_shape c n (printedOpts c dl) ([], n)
  rw [defaults_eq_fold, h1, List.nil_append, tokenize, ← h2]
  have hps : ∀ p ∈ ps, (∀ ch ∈ p.1, isCSpace ch = true) ∧ C13.Reads p.2 p.2 := by
    intro p hp
    have hm : p.2 ∈ wantWords c (printedOpts c dl) := by rw [← h2]; exact List.mem_map_of_mem hp
    simp only [wantWords, List.mem_filterMap, Option.map_eq_some_iff] at hm
    obtain ⟨k, hk, d, hd, he⟩ := hm
    have := hplain k hk d hd
    exact ⟨h3 p hp, by rw [← he]; exact reads_plain _ (optWord_plain _ _ this.1 this.2) ⟨_, rfl⟩⟩
  exact (csTokens_shape ps [] _ [] (fun _ h => nomatch h) hps (Nat.lt_succ_self _)).trans (List.nil_append _)

theorem parse_longs (c : Context) (aU : Bool) (pos : Option (List Nat)) (items : List (Nat × List Nat)) (f : Nat)
    (vs : List (Nat × List Nat)) (rem : List (List Nat))
    (hit : ∀ it ∈ items, (∀ x ∈ (optOf c it.1).name, x ≠ 61) ∧ it.2 ≠ [] ∧ getOption c aU (optOf c it.1).name .nameOrPrefix = .ok (some it.1))
    (hf : items.length < f) :
    parseLoop c aU true pos f { toks := items.map (fun it => optWord (optOf c it.1) it.2), values := vs, remaining := rem }
      = .ok { toks := [], values := vs ++ items, remaining := rem } := by
  induction items generalizing f vs with
  | nil => rw [List.append_nil]; cases f <;> rfl
  | cons it r ih =>
    obtain ⟨k, v⟩ := it
    obtain ⟨f, rfl⟩ : ∃ g, f = g + 1 := ⟨f - 1, by omega⟩
    obtain ⟨h1, h2, h3⟩ := hit (k, v) (List.mem_cons_self ..)
    rw [List.map_cons, optWord, C13.parseLoop_long (by simp) (C13.C13_long_eq c aU true _ v k _ h1 h2 (Or.inr trivial) h3 (Or.inr rfl)) f]
    exact (ih f (vs ++ [(k, v)]) (fun it hi => hit it (List.mem_cons_of_mem _ hi)) (by simp only [List.length_cons] at hf; omega)).trans
      (by rw [List.append_assoc]; rfl)

theorem wantWords_eq_map (c : Context) (ks : List Nat) : wantWords c ks = (wantPairs c ks).map (fun it => optWord (optOf c it.1) it.2) := by
  rw [wantPairs, List.map_filterMap]
  exact congrArg (List.filterMap · ks) (funext fun k => by cases (optOf c k).dflt <;> rfl)

/-- **C19 (default command line, round trip)**: under the single-token hypothesis, and given that each listed option's
    name resolves to that option (C14: an exact name always does), parsing the default command line against the same
    context yields exactly the visible options that have a default, each with its default value, in print order. -/
theorem C19_defaults_parse_back (c : Context) (dl n : Nat) (pos : Option (List Nat))
    (hplain : ∀ k ∈ printedOpts c dl, ∀ d, (optOf c k).dflt = some d →
      PlainTok (optOf c k).name ∧ PlainTok d ∧ d ≠ [] ∧ (∀ x ∈ (optOf c k).name, x ≠ 61) ∧
      getOption c false (optOf c k).name .nameOrPrefix = .ok (some k)) :
    parseString c false true pos (defaults c dl n) = .ok { toks := [], values := wantPairs c (printedOpts c dl), remaining := [] } := by
  rw [parseString, C19_defaults_tokens c dl n (fun k hk d hd => ⟨(hplain k hk d hd).1, (hplain k hk d hd).2.1⟩), parseArgv, wantWords_eq_map,
    List.length_map]
  refine (parse_longs c false pos _ _ [] [] (fun it hi => ?_) (Nat.lt_succ_self _)).trans (by rw [List.nil_append])
  simp only [wantPairs, List.mem_filterMap, Option.map_eq_some_iff] at hi
  obtain ⟨k, hk, d, hd, rfl⟩ := hi
  obtain ⟨-, -, h1, h2, h3⟩ := hplain k hk d hd
  exact ⟨h2, h1, h3⟩

/-! ### the model on a context with a flag `help,h`, an option `num,n` with default and argument name, and a level-2 option `v` -/
def exCtx : Context := { opts := [
  { name := [104, 101, 108, 112], alias := 104, flag := true, implicit := true, desc := [80, 114, 105, 110, 116] },
  { name := [110, 117, 109], alias := 110, dflt := some [52, 50], arg := some [60, 110, 62], desc := [78, 32, 91, 37, 68, 93], group := 1 },
  { name := [118], level := 2, group := 1, dflt := some [49] } ] }
example : printedOpts exCtx 0 = [1, 0] := by decide +kernel
example : printedOpts exCtx 2 = [1, 2, 0] := by decide +kernel
example : defaults exCtx 0 3 = [45, 45, 110, 117, 109, 61, 52, 50, 32] := by decide +kernel
example : tokenize (defaults exCtx 2 3) = [[45, 45, 110, 117, 109, 61, 52, 50], [45, 45, 118, 61, 49]] := by decide +kernel
example : (formatOpt (optOf exCtx 1) 23).text.length = 23 ∧ (formatOpt (optOf exCtx 1) 23).viol = false := by decide +kernel
example : formatDesc (optOf exCtx 1) = [58, 32, 78, 32, 91, 52, 50, 93, 10] := by decide +kernel
end PotasscoVerif.C19
