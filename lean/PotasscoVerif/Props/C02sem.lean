/-
  C02 — the converted program has the same answer sets.
  Property theorems over the converter model (Model/Convert.lean, tied to src/convert.cpp by the `cv` correspondence)
  and the reference semantics Spec/Asp.lean.  `answer_sets`, `shown_iff`, `cost_eq`: what a state with the invariants `J`, `KO`, `MO`
  (Lemmas/ConvertSem.lean, ConvertStep.lean) gives; every statement about answer sets, shown names and costs — one step or several — is one of them applied.
-/
import PotasscoVerif.Lemmas.ConvertOneStep
namespace PotasscoVerif.C02
open PotasscoVerif PotasscoVerif.Convert PotasscoVerif.Asp

/-- an output interpretation seen through the converter's own atom map -/
def restrict (c : CS) (X' : I) : I := fun a => match img c a with | some n => X' n | none => false

theorem restrict_eq (c : CS) (hi : Inv (abs c)) (defs : List (Nat × Body)) (X' : I) : restrict c X' = (ctxOf c defs).R X' := by
  funext a
  unfold restrict Ctx.R ctxOf
  simp only
  cases h : img c a with
  | some n =>
    have hm := img_mem c a n h
    have hd : a ∈ domOf c := by simp only [domOf, List.mem_map]; exact ⟨_, hm, rfl⟩
    simp [hd, finalMap, h]
  | none =>
    have hd : ¬ a ∈ domOf c := by
      intro hd
      have := dom_pair c hi a hd
      rw [mem_img c hi.keys _ _ this] at h
      cases h
    simp [hd]

/-- rules the converter drops (a choice over no atoms) are satisfied by every pair of interpretations -/
theorem stable_filter_kept_app (P Q : List Rule) (X : I) : Stable (P.filter kept ++ Q) X ↔ Stable (P ++ Q) X := by
  have hm : ∀ X Y, ModelR (P.filter kept ++ Q) X Y ↔ ModelR (P ++ Q) X Y := by
    intro X Y
    rw [modelR_append, modelR_append]
    constructor
    · rintro ⟨h1, h2⟩
      refine ⟨?_, h2⟩
      intro r hr
      cases hk : kept r
      · unfold kept at hk
        simp only [Bool.not_eq_false', Bool.and_eq_true, List.isEmpty_iff] at hk
        unfold satR headR
        simp [hk.1, hk.2]
      · exact h1 r (List.mem_filter.mpr ⟨hr, hk⟩)
    · rintro ⟨h1, h2⟩; exact ⟨fun r hr => h1 r (List.mem_filter.mp hr).1, h2⟩
  unfold Stable
  rw [hm]
  constructor
  · rintro ⟨h1, h2⟩; exact ⟨h1, fun Y hs hy => h2 Y hs ((hm X Y).mpr hy)⟩
  · rintro ⟨h1, h2⟩; exact ⟨h1, fun Y hs hy => h2 Y hs ((hm X Y).mp hy)⟩

/-- answer sets correspond one to one (`E` / `restrict`) under any translation whose context is the converter's state `c` -/
theorem answer_sets {c : CS} {P defs} (hj : J c P defs) {Q R Q' : List Rule} (tr : Trans (ctxOf c defs) (Q.filter kept ++ R) Q') :
    (∀ X, Stable (Q ++ R) X → Stable Q' ((ctxOf c defs).E X X) ∧ (ctxOf c defs).E X X 1 = false ∧ restrict c ((ctxOf c defs).E X X) = X) ∧
    (∀ X', Stable Q' X' → X' 1 = false → Stable (Q ++ R) (restrict c X') ∧ (ctxOf c defs).E (restrict c X') (restrict c X') = X') := by
  have ok := ctx_ok hj
  simp only [restrict_eq c hj.inv defs]
  refine ⟨fun X hs => translation_stable ok tr ((stable_filter_kept_app _ _ X).mpr hs), fun X' hs h1 => ?_⟩
  obtain ⟨h2, h3⟩ := translation_stable_back ok tr X' hs h1
  exact ⟨(stable_filter_kept_app _ _ _).mp h2, h3.symm⟩

/-- `answer_sets` with no rules beside the translated ones (`R = []`) -/
theorem answer_sets_rules {c : CS} {P defs} (hj : J c P defs) {Q Q' : List Rule} (tr : Trans (ctxOf c defs) (Q.filter kept) Q') :
    (∀ X, Stable Q X → Stable Q' ((ctxOf c defs).E X X) ∧ (ctxOf c defs).E X X 1 = false ∧ restrict c ((ctxOf c defs).E X X) = X) ∧
    (∀ X', Stable Q' X' → X' 1 = false → Stable Q (restrict c X') ∧ (ctxOf c defs).E (restrict c X') (restrict c X') = X') := by
  have h := answer_sets hj (R := []) (by rwa [List.append_nil])
  rwa [List.append_nil] at h

/-- **C02 (answer sets are preserved, one to one, under the converter's own atom map)**.
    For every program step made of rules with disjunctive or choice heads (also empty ones), normal and weight bodies,
    minimize statements, output directives with arbitrary conditions and external directives (`progOf`: an external on an
    atom no rule defines is a fact / a choice / nothing, the last directive counts; compiled away, i.e. converted without
    the clasp extension — with the extension the step must not contain externals) — literals non-zero, body weights non-negative,
    no weight `INT_MIN` — converted with or without the clasp extensions:
    there is an extension `E` of interpretations to the auxiliary atoms such that
    * every stable model `X` of the given rules yields the stable model `E X` of the emitted rules, in which the false
      atom `1` is false (the emitted compute statement), and whose restriction to the mapped atoms is `X` again;
    * every stable model `X'` of the emitted rules with atom `1` false restricts to a stable model of the given rules
      and is the extension of that restriction.
    So `restrict` and `E` are mutually inverse bijections between the two sets of answer sets. -/
theorem C02_stable_models (ext inc : Bool) (ds : List Call) (hx : ∀ d ∈ ds, PlainOk d) (hE : ext = false ∨ extCalls ds = []) :
    ∃ E : I → I,
      (∀ X, Stable (progOf ds) X →
        Stable (rulesOf (convert ext (stepCalls inc ds)).out) (E X) ∧ E X 1 = false ∧ restrict (convert ext (stepCalls inc ds)) (E X) = X) ∧
      (∀ X', Stable (rulesOf (convert ext (stepCalls inc ds)).out) X' → X' 1 = false →
        Stable (progOf ds) (restrict (convert ext (stepCalls inc ds)) X') ∧ E (restrict (convert ext (stepCalls inc ds)) X') = X') := by
  obtain ⟨defs, hj, _⟩ := step_compiled ext inc ds hx hE
  exact ⟨_, answer_sets hj (ctx_trans hj)⟩

/-- the names the GIVEN program asks to show under an interpretation: those of the output directives whose condition holds, and the helper
    names `_edge(s,t)` of the acyclicity edges whose condition holds (the converter represents an edge by showing that name) -/
def shown (cs : List Call) (X : I) (name : List Nat) : Prop := ∃ cond, (name, cond) ∈ srcOuts cs ∧ bodyR X X (.normal cond) = true
/-- the names the EMITTED program shows: those of its output directives whose condition holds -/
def shownOut (cs : List Call) (X : I) (name : List Nat) : Prop := ∃ cond, (name, cond) ∈ outsOf cs ∧ bodyR X X (.normal cond) = true

theorem rep_val {c : CS} {P defs} (hj : J c P defs) (X : I) (n : Nat) (cond : List Int) (h : Rep c defs n cond) :
    bodyR ((ctxOf c defs).E X X) ((ctxOf c defs).E X X) (.normal [(n : Int)]) = bodyR X X (.normal cond) := by
  have ok := ctx_ok hj
  rcases h with ⟨a, rfl, ha, hm⟩ | h
  · have hd : a ∈ domOf c := List.mem_map.mpr ⟨_, hm, rfl⟩
    obtain rfl : finalMap c a = n := agree_final c hj.inv (a, n) hm
    rw [bodyR_atom _ _ a ha, bodyR_atom _ _ (finalMap c a) (Nat.lt_of_lt_of_le Nat.zero_lt_two (ok.img2 a hd))]
    exact E_img ok X X a hd
  · rw [bodyR_atom _ _ n (Nat.lt_of_lt_of_le Nat.zero_lt_two (ok.aux2 _ h))]
    exact E_aux ok X X _ h

theorem shown_iff {c : CS} {P defs} {cs : List Call} (hj : J c P defs) (hko : KO c (srcOuts cs) defs) (X : I) (name : List Nat) :
    shown cs X name ↔ shownOut c.out ((ctxOf c defs).E X X) name := by
  unfold shown shownOut
  constructor
  · rintro ⟨cond, hm, hb⟩
    obtain ⟨n, hn, hrep⟩ := hko.fwd (name, cond) hm
    exact ⟨[(n : Int)], hn, by rw [rep_val hj X n cond hrep]; exact hb⟩
  · rintro ⟨c', hm, hb⟩
    obtain ⟨n, cond, rfl, hc, hrep⟩ := hko.bwd (name, c') hm
    exact ⟨cond, hc, by rw [← rep_val hj X n cond hrep]; exact hb⟩

/-- **C02 (answer sets, shown symbols)**: `C02_stable_models` with the same extension `E`, and in addition: under
    corresponding answer sets exactly the same symbol names are shown — a name is shown by the given program under `X`
    (some output directive with that name has a true condition) iff it is shown by the emitted program under `E X`
    (where every output directive is conditioned on one atom: the image of the single positive literal, or the
    auxiliary atom defined by the condition). -/
theorem C02_equivalence (ext inc : Bool) (ds : List Call) (hx : ∀ d ∈ ds, PlainOk d) (hnh : ∀ d ∈ ds, isHeu d = false) (hE : ext = false ∨ extCalls ds = []) :
    ∃ E : I → I,
      (∀ X, Stable (progOf ds) X →
        Stable (rulesOf (convert ext (stepCalls inc ds)).out) (E X) ∧ E X 1 = false ∧ restrict (convert ext (stepCalls inc ds)) (E X) = X) ∧
      (∀ X', Stable (rulesOf (convert ext (stepCalls inc ds)).out) X' → X' 1 = false →
        Stable (progOf ds) (restrict (convert ext (stepCalls inc ds)) X') ∧ E (restrict (convert ext (stepCalls inc ds)) X') = X') ∧
      (∀ X name, shown ds X name ↔ shownOut (convert ext (stepCalls inc ds)).out (E X) name) := by
  obtain ⟨defs, hj, hout⟩ := step_compiled ext inc ds hx hE
  obtain ⟨h1, h2⟩ := answer_sets hj (ctx_trans hj)
  exact ⟨_, h1, h2, shown_iff hj (hout hnh).1⟩

/-! ### minimize statements -/
/-- value of the minimize statements of priority `p` in a call list under `X` -/
def costAt (cs : List Call) (p : Int) (X : I) : Int := costM X (minsOf cs) p

/-- the sum of the negative weights of the statements of priority `p` -/
def negM (Ms : List (Int × List (Int × Int))) (p : Int) : Int :=
  ((Ms.filter (fun q => q.1 == p)).map (fun q => ((q.2.filter (fun w => w.2 < 0)).map (·.2)).sum)).sum

theorem litR_neg (X : I) (l : Int) (hl : l ≠ 0) : litR X X (-l) = !litR X X l := by
  unfold litR
  by_cases h : 0 < l
  · have : ¬ (0 : Int) < -l := by omega
    rw [if_pos h, if_neg this, Int.natAbs_neg]
  · have : (0 : Int) < -l := by omega
    rw [if_neg h, if_pos this, Int.natAbs_neg]; simp

theorem wsum_flip (X : I) (ws : List (Int × Int)) (hz : ∀ p ∈ ws, p.1 ≠ 0) :
    wsum X X (ws.map flipNeg) = wsum X X ws - ((ws.filter (fun p => p.2 < 0)).map (·.2)).sum :=
  C02_minimize_flip (litR X X) (litR_neg X) ws hz

theorem costM_flip (X : I) (Ms : List (Int × List (Int × Int))) (hz : ∀ pl ∈ Ms, ∀ q ∈ pl.2, q.1 ≠ 0) (p : Int) :
    costM X (Ms.map (fun q => (q.1, q.2.map flipNeg))) p = costM X Ms p - negM Ms p := by
  induction Ms with
  | nil => rfl
  | cons e r ih =>
    have ih' := ih (fun pl h => hz pl (by simp [h]))
    rw [List.map_cons, costM_cons, costM_cons, ih']
    simp only
    unfold negM
    by_cases h : (e.1 == p) = true
    · simp only [h, ↓reduceIte, List.filter_cons, List.map_cons, List.sum_cons]
      rw [wsum_flip X e.2 (hz e (by simp))]
      omega
    · simp only [h, ↓reduceIte, List.filter_cons, Bool.false_eq_true]
      omega

theorem costM_ren {c : Ctx} (ok : c.Ok) (X : I) (l : List (Int × List (Int × Int)))
    (h : ∀ pl ∈ l, ∀ q ∈ pl.2, q.1 ≠ 0 ∧ q.1.natAbs ∈ c.dom) (p : Int) :
    costM (c.E X X) (l.map (fun pl => (pl.1, renW c.m pl.2))) p = costM X l p := by
  induction l with
  | nil => rfl
  | cons e r ih =>
    rw [List.map_cons, costM_cons, costM_cons, ih (fun pl hp => h pl (by simp [hp]))]
    simp only
    have e1 : wsum (c.E X X) (c.E X X) (renW c.m e.2) = wsum X X e.2 := by
      unfold renW
      rw [wsum_ren ok _ _ e.2 (h e (by simp))]
      apply wsum_congr
      intro q hq
      have := (h e (by simp) q hq).2
      exact ⟨R_E ok X X _ this, R_E ok X X _ this⟩
    rw [e1]

theorem minsOf_nz (ds : List Call) (hx : ∀ d ∈ ds, PlainOk d) : ∀ pl ∈ minsOf ds, ∀ q ∈ pl.2, q.1 ≠ 0 := by
  intro pl hpl q hq
  obtain ⟨d, hd, he⟩ := List.mem_filterMap.mp hpl
  obtain ⟨prio, lits, rfl⟩ := minOf_inv he
  obtain rfl := Option.some.inj he
  exact ((hx _ hd) q hq).1

theorem cost_eq {c : CS} {P defs} {cs : List Call} (hj : J c P defs) (hmo : MO c (minsOf cs)) (hx : ∀ d ∈ cs, PlainOk d) (X : I) (p : Int) :
    costAt c.out p ((ctxOf c defs).E X X) = costAt cs p X - negM (minsOf cs) p := by
  obtain ⟨TT, t1, t2, t3⟩ := hmo.tab
  unfold costAt
  rw [t1 _ (agree_final _ hj.inv)]
  refine (costM_ren (ctx_ok hj) X TT t3 p).trans ?_
  rw [t2 X p]
  exact costM_flip _ _ (minsOf_nz cs hx) _

/-- **C02 (optimisation)**: under corresponding answer sets, for every priority the cost in the emitted program is the
    cost in the given program minus a constant — the sum of the negative weights of that priority (they were moved to
    the complementary literals).  So the order of answer sets by cost, priority by priority, is the same.
    (`C02_minimize_sorted` + `flushMinimize_order`: one emitted statement per priority, lower priorities first.) -/
theorem C02_cost (ext inc : Bool) (ds : List Call) (hx : ∀ d ∈ ds, PlainOk d) (hnh : ∀ d ∈ ds, isHeu d = false) (hE : ext = false ∨ extCalls ds = []) :
    ∃ E : I → I,
      (∀ X, Stable (progOf ds) X →
        Stable (rulesOf (convert ext (stepCalls inc ds)).out) (E X) ∧ E X 1 = false ∧ restrict (convert ext (stepCalls inc ds)) (E X) = X) ∧
      (∀ X', Stable (rulesOf (convert ext (stepCalls inc ds)).out) X' → X' 1 = false → E (restrict (convert ext (stepCalls inc ds)) X') = X') ∧
      (∀ X p, costAt (convert ext (stepCalls inc ds)).out p (E X) = costAt ds p X - negM (minsOf ds) p) := by
  obtain ⟨defs, hj, hout⟩ := step_compiled ext inc ds hx hE
  obtain ⟨h1, h2⟩ := answer_sets hj (ctx_trans hj)
  exact ⟨_, h1, fun X' hs h0 => (h2 X' hs h0).2, cost_eq hj (hout hnh).2 hx⟩

/-- the emitted step ends with the compute statement that makes the false atom false -/
theorem C02_compute_false (ext inc : Bool) (ds : List Call) (hx : ∀ d ∈ ds, PlainOk d) (hE : ext = false ∨ extCalls ds = []) :
    Call.assume [-1] ∈ (convert ext (stepCalls inc ds)).out ∧ (convert ext (stepCalls inc ds)).fail = false := by
  obtain ⟨defs, hj, _⟩ := step_compiled ext inc ds hx hE
  have hf := hj.nofail
  refine ⟨?_, hf⟩
  rw [convert_step] at hf ⊢
  cases hc : (preEnd ext inc ds).fail
  · rw [apply_end _ hc]
    exact List.mem_append_left _ (flush_out _ ▸ List.mem_append_right _ (List.mem_singleton_self _))
  · rw [apply_fail _ hc, hc] at hf; cases hf

/-! ### the statement is not vacuous: a program with every covered directive kind -/
example : ∀ d ∈ ([.rule 0 [5] [3, -4], .rule 1 [3, 4] [], .rule 0 [] [3, 4], .sumRule 1 [6] 2 [(3, 1), (-5, 2)],
    .minimize 1 [(3, 2), (-4, -3)], .output [97] [5], .output [98] [5], .output [99] [3, -6], .external 7 0, .acycEdge 0 1 [3, -5]] : List Call), PlainOk d := by
  decide

end PotasscoVerif.C02
