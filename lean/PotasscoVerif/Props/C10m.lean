/-
  C10 (continued) — both read modes of the ground-text reader agree (as `C01_modes` for aspif; both loops are models of the code, each
  compared with its own mode of the real reader: `tr C` / `tr I`).
-/
import PotasscoVerif.Props.C01m
import PotasscoVerif.Props.C04Text
namespace PotasscoVerif.C10m
open PotasscoVerif PotasscoVerif.CharStream PotasscoVerif.TextIn PotasscoVerif.C01m
open PotasscoVerif.AspifIn (Result more)

theorem stmtLoop_unflag (inc : Bool) (f : Nat) (a : AS) (acc : List Call) : stmtLoop inc f (unflag a) acc = stmtLoop inc f a acc := by
  cases f with
  | zero => rfl
  | succ f => rw [C04.stmtLoop_succ, C04.stmtLoop_succ, show peekWs (unflag a) = peekWs a from rfl]

attribute [local irreducible] stmtLoop more AS.skipWs in
theorem incLoop_eq (f : Nat) (inc : Bool) (a : AS) (acc : List Call) : TextIn.incLoop f inc a acc = TextIn.stepsLoop f inc a acc :=
  rounds_agree (steps := fun f => TextIn.stepsLoop f inc) (incs := fun f => TextIn.incLoop f inc)
    (body := fun a => stmtLoop inc (a.rest.length + 1) a []) (fun a => stmtLoop_unflag inc _ a [])
    (fun _ _ => rfl) (fun _ _ => rfl) (fun _ _ _ => rfl) (fun _ _ _ => rfl) f a acc

/-- **C10 (both read modes)**: for every input text, reading step by step (`accept`, then `parse(Incremental)` repeated while `more()`)
    delivers exactly the calls and the result of reading in one go. -/
theorem C10_modes (input : List Nat) : TextIn.readInc input = TextIn.read input := by
  unfold TextIn.readInc TextIn.read
  simp only [incLoop_eq]

/-- non-vacuity: "#incremental. a. #step. {b}." read step by step: two steps -/
example : TextIn.readInc [35, 105, 110, 99, 114, 101, 109, 101, 110, 116, 97, 108, 46, 32, 97, 46, 32, 35, 115, 116, 101, 112, 46, 32, 123, 98, 125, 46]
    = { calls := [.initProgram true, .beginStep, .rule 0 [1] [], .endStep, .beginStep, .rule 1 [2] [], .endStep], err := none } := by decide +kernel

end PotasscoVerif.C10m
