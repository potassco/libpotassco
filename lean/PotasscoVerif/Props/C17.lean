/-
  C17 — string builder content equals the appended text and never leaves its buffer.

  Model: Model/StringBuilder.lean.  The specification is stated here directly: the text after an operation is
  the concatenation (for the fixed kind: its longest prefix that fits `cap`), errno is raised iff something
  was cut, and no store index leaves the array it targets (`viol = false`), for every history.
-/
import PotasscoVerif.Model.StringBuilder
namespace PotasscoVerif.C17
open PotasscoVerif.StringBuilder

def isFixed (b : SB) : Bool := b.kind == .buf false

structure Inv (b : SB) : Prop where
  noviol : b.viol = false
  sbo    : b.kind = .sbo → b.text.length ≤ 63
  buf    : ∀ d, b.kind = .buf d → b.text.length ≤ b.cap

/-- what appending `s` must give (the property). -/
def specText (b : SB) (s : List Nat) : List Nat := if isFixed b then (b.text ++ s).take b.cap else b.text ++ s
def specCut (b : SB) (s : List Nat) : Bool := isFixed b && decide (b.text.length + s.length > b.cap)

/-- what both `append s` and the formatting stage with output `s` make of a builder that satisfies the invariant -/
def grown (b : SB) (s : List Nat) : SB :=
  match b.kind with
  | .str _ => { b with text := b.text ++ s }
  | .sbo => { b with kind := if b.text.length + s.length ≤ 63 then .sbo else .str true, text := b.text ++ s }
  | .buf true => { b with kind := if b.text.length + s.length ≤ b.cap then .buf true else .str true, text := b.text ++ s }
  | .buf false => { b with text := (b.text ++ s).take b.cap, errno := b.errno || decide (b.text.length + s.length > b.cap) }

theorem grown_text (b : SB) (s : List Nat) : (grown b s).text = specText b s := by
  rcases b with ⟨kind, text, cap, errno, viol⟩
  rcases kind with _ | own | (_ | _) <;> rfl

theorem grown_errno (b : SB) (s : List Nat) : (grown b s).errno = (b.errno || specCut b s) := by
  rcases b with ⟨kind, text, cap, errno, viol⟩
  rcases kind with _ | own | (_ | _)
  case buf.false => rfl
  all_goals exact (Bool.or_false errno).symm

theorem fits_of_spill {c : Prop} [Decidable c] {k k' : Kind} (h : (if c then k else .str true) = k')
    (hk' : ∀ o, k' ≠ .str o) : c ∧ k = k' := by
  split at h
  · exact ⟨‹c›, h⟩
  · exact absurd h.symm (hk' _)

theorem grown_kind (b : SB) (s : List Nat) : isFixed (grown b s) = isFixed b ∧ (grown b s).cap = b.cap := by
  rcases b with ⟨kind, text, cap, errno, viol⟩
  rcases kind with _ | own | (_ | _)
  case sbo | buf.true =>
    exact ⟨beq_false_of_ne fun hk => (nomatch (fits_of_spill hk fun _ => Kind.noConfusion).2), rfl⟩
  all_goals exact ⟨rfl, rfl⟩

theorem grown_inv {b : SB} (s : List Nat) (h : Inv b) : Inv (grown b s) := by
  have hv := h.noviol
  rcases b with ⟨kind, text, cap, errno, viol⟩
  rcases kind with _ | own | (_ | _)
  · exact ⟨hv, fun hk => Nat.le_trans (Nat.le_of_eq List.length_append) (fits_of_spill hk fun _ => Kind.noConfusion).1,
      fun _ hk => Kind.noConfusion (fits_of_spill hk fun _ => Kind.noConfusion).2⟩
  · exact ⟨hv, Kind.noConfusion, fun _ => Kind.noConfusion⟩
  · exact ⟨hv, Kind.noConfusion, fun _ _ => List.length_take_le _ _⟩
  · exact ⟨hv, fun hk => Kind.noConfusion (fits_of_spill hk fun _ => Kind.noConfusion).2,
      fun _ hk => Nat.le_trans (Nat.le_of_eq List.length_append) (fits_of_spill hk fun _ => Kind.noConfusion).1⟩

theorem take_take_append (x o : List Nat) (cap : Nat) : ((x.take cap) ++ o).take cap = (x ++ o).take cap := by
  by_cases h : x.length ≤ cap
  · rw [List.take_of_length_le h]
  · have hc : cap ≤ x.length := Nat.le_of_not_le h
    rw [List.take_append_of_le_length (Nat.le_of_eq (List.length_take.trans (Nat.min_eq_left hc)).symm),
      List.take_append_of_le_length hc, List.take_take, Nat.min_self]

theorem grown_append (b : SB) (p o : List Nat) : grown (grown b p) o = grown b (p ++ o) := by
  rcases b with ⟨kind, text, cap, errno, viol⟩
  rcases kind with _ | own | (_ | _)
  · by_cases h1 : text.length + p.length ≤ 63
    · simp only [grown, h1, ↓reduceIte, List.length_append, Nat.add_assoc, List.append_assoc]
    · have : ¬text.length + (p.length + o.length) ≤ 63 :=
        fun hc => h1 (Nat.le_trans (Nat.add_le_add_left (Nat.le_add_right ..) _) hc)
      simp only [grown, h1, this, ↓reduceIte, List.length_append, List.append_assoc]
  · simp only [grown, List.append_assoc]
  · simp only [grown, take_take_append, List.append_assoc, List.length_append, List.length_take, Bool.or_assoc]
    congr 2
    rw [← Bool.decide_or]; exact decide_eq_decide.mpr (by omega)
  · by_cases h1 : text.length + p.length ≤ cap
    · simp only [grown, h1, ↓reduceIte, List.length_append, Nat.add_assoc, List.append_assoc]
    · have : ¬text.length + (p.length + o.length) ≤ cap :=
        fun hc => h1 (Nat.le_trans (Nat.add_le_add_left (Nat.le_add_right ..) _) hc)
      simp only [grown, h1, this, ↓reduceIte, List.length_append, List.append_assoc]

theorem grown_nil (b : SB) (h : Inv b) : grown b [] = b := by
  have hs := h.sbo; have hb := h.buf
  rcases b with ⟨kind, text, cap, errno, viol⟩
  rcases kind with _ | own | (_ | _)
  · simp only [grown, List.length_nil, Nat.add_zero, hs rfl, ↓reduceIte, List.append_nil]
  · simp only [grown, List.append_nil]
  · have hle : text.length ≤ cap := hb _ rfl
    simp only [grown, List.append_nil, List.take_of_length_le hle, List.length_nil, Nat.add_zero, gt_iff_lt,
      Nat.not_lt.mpr hle, decide_false, Bool.or_false]
  · simp only [grown, List.length_nil, Nat.add_zero, hb _ rfl, ↓reduceIte, List.append_nil]

theorem store_ok {b : SB} {start k : Nat} (hv : b.viol = false) (h : start + k ≤ b.maxIdx) : b.store start k = b := by
  rcases b with ⟨kind, text, cap, errno, viol⟩
  subst hv
  show SB.mk _ _ _ _ (false || decide _) = _
  rw [decide_eq_false (Nat.not_lt.mpr h)]; rfl

theorem take_fixed (t s : List Nat) (cap : Nat) (h : t.length ≤ cap) :
    t ++ s.take (min s.length (cap - t.length)) = (t ++ s).take cap := by
  rw [List.take_append, List.take_of_length_le h]
  congr 1
  by_cases hle : s.length ≤ cap - t.length
  · rw [Nat.min_eq_left hle, List.take_of_length_le (Nat.le_refl _), List.take_of_length_le hle]
  · rw [Nat.min_eq_right (by omega)]

theorem append_eq (b : SB) (s : List Nat) (h : Inv b) : b.append s = grown b s := by
  have hs := h.sbo; have hb := h.buf; have hv := h.noviol
  rcases b with ⟨kind, text, cap, errno, viol⟩
  subst hv
  rcases kind with _ | own | dyn
  · have hiff : 63 - text.length ≥ s.length ↔ text.length + s.length ≤ 63 := Nat.le_sub_iff_add_le' (hs rfl)
    by_cases hfit : text.length + s.length ≤ 63
    · simp only [SB.append, grown, SboCap, hfit, hiff.mpr hfit, ↓reduceIte]
      exact store_ok rfl hfit
    · simp only [SB.append, grown, SboCap, hfit, mt hiff.mp hfit, ↓reduceIte]
  · rfl
  · have hle : text.length ≤ cap := hb dyn rfl
    have hiff : cap - text.length ≥ s.length ↔ text.length + s.length ≤ cap := Nat.le_sub_iff_add_le' hle
    cases dyn
    · simp only [SB.append, grown, Bool.not_false, or_true, ↓reduceIte]
      rw [store_ok rfl (show text.length + min s.length (cap - text.length) ≤ cap from
        Nat.add_le_of_le_sub' hle (Nat.min_le_right ..)), take_fixed _ _ _ hle]
    · by_cases hfit : text.length + s.length ≤ cap
      · simp only [SB.append, grown, hfit, hiff.mpr hfit, Nat.not_lt.mpr hfit, true_or, ↓reduceIte, Nat.min_eq_left (hiff.mpr hfit),
          List.take_length, decide_false, Bool.or_false]
        exact store_ok rfl hfit
      · simp only [SB.append, grown, hfit, mt hiff.mp hfit, Bool.not_true, Bool.false_eq_true, or_false, ↓reduceIte]

theorem size_eq_maxIdx (b : SB) : b.size = b.maxIdx := by
  rcases b with ⟨kind, text, cap, errno, viol⟩; cases kind <;> rfl

theorem Inv.len_le (h : Inv b) : b.text.length ≤ b.size := by
  have hs := h.sbo; have hb := h.buf
  rcases b with ⟨kind, text, cap, errno, viol⟩
  rcases kind with _ | own | dyn
  · exact hs rfl
  · exact Nat.le_refl _
  · exact hb dyn rfl

theorem not_fits_of_full {len n cap : Nat} (hfree : cap - len = 0) (hn : 0 < n) : ¬len + n ≤ cap := fun hc =>
  Nat.not_lt.mpr (Nat.le_trans (Nat.add_le_add_right (Nat.le_of_sub_eq_zero hfree) n) hc) (Nat.lt_add_of_pos_right hn)

/-- no room left: the first attempt goes to the scratch array `small[64]`; what is too long for it is formatted again after growing. -/
theorem formatOut_full (b : SB) (out : List Nat) (h : Inv b) (hfree : b.free = 0) : b.formatOut out = grown b out := by
  have hlen := h.len_le
  have hv := h.noviol
  unfold SB.formatOut; dsimp only
  rw [if_pos (by rw [hfree]; rfl)]
  by_cases hn : 0 < out.length
  · by_cases h64 : out.length < 64
    · rw [if_pos ⟨hn, h64⟩]; exact append_eq b out h
    · rw [if_neg (fun hc => h64 hc.2), if_pos hn]
      rcases b with ⟨kind, text, cap, errno, viol⟩
      subst hv
      rcases kind with _ | own | (_ | _)
      · simp only [grown, not_fits_of_full (cap := 63) hfree hn, ↓reduceIte]
      · exact store_ok rfl (Nat.le_of_eq List.length_append.symm)
      · have hcap : cap - text.length = 0 := hfree
        have hle : text.length ≤ cap := hlen
        simp only [grown, Bool.not_false, ↓reduceIte, List.take_append_of_le_length (Nat.le_of_sub_eq_zero hcap),
          List.take_of_length_le hle, gt_iff_lt, decide_eq_true (Nat.not_le.mp (not_fits_of_full hcap hn)), Bool.or_true]
        exact store_ok rfl hle
      · simp only [grown, not_fits_of_full (cap := cap) hfree hn, Bool.not_true, Bool.false_eq_true, ↓reduceIte]
  · rw [if_neg (fun hc => hn hc.1), if_neg hn, List.eq_nil_of_length_eq_zero (Nat.eq_zero_of_not_pos hn), grown_nil b h]

/-- room left: the first attempt is made in place; if it was cut, the builder grows (which may spill) and formats again, as in `append`. -/
theorem formatOut_room (b : SB) (out : List Nat) (h : Inv b) (hfree : b.free ≠ 0) : b.formatOut out = grown b out := by
  have hlen := h.len_le
  unfold SB.formatOut; dsimp only
  rw [if_neg (by simpa using hfree), store_ok h.noviol (size_eq_maxIdx b ▸ Nat.add_le_of_le_sub' hlen
    (Nat.le_trans (Nat.min_le_right ..) (Nat.sub_le ..)))]
  by_cases hn : 0 < out.length
  · by_cases hlt : out.length < b.free
    · -- fits with its terminator: the first attempt is the result
      rw [if_pos ⟨hn, hlt⟩]
      have hfit : b.text.length + out.length ≤ b.size := Nat.le_of_lt (Nat.add_lt_of_lt_sub' hlt)
      rcases b with ⟨kind, text, cap, errno, viol⟩
      rcases kind with _ | own | (_ | _)
      · simp only [grown, show text.length + out.length ≤ 63 from hfit, ↓reduceIte]
      · exact absurd (Nat.sub_self _) hfree
      · have hfit : text.length + out.length ≤ cap := hfit
        simp only [grown, List.take_of_length_le (List.length_append ▸ hfit), gt_iff_lt, decide_eq_false (Nat.not_lt.mpr hfit),
          Bool.or_false]
      · simp only [grown, show text.length + out.length ≤ cap from hfit, ↓reduceIte]
    · have hdec : decide (out.length > b.free) = decide (b.text.length + out.length > b.size) :=
        decide_eq_decide.mpr (Nat.sub_lt_iff_lt_add' hlen)
      rw [if_neg (fun hc => hlt hc.2), if_pos hn, ← append_eq b out h, hdec]
      rcases b with ⟨kind, text, cap, errno, viol⟩
      rcases kind with _ | own | dyn
      · rfl
      · exact absurd (Nat.sub_self _) hfree
      · rfl
  · rw [if_neg (fun hc => hn hc.1), if_neg hn, List.eq_nil_of_length_eq_zero (Nat.eq_zero_of_not_pos hn), grown_nil b h]

theorem formatOut_eq (b : SB) (out : List Nat) (h : Inv b) : b.formatOut out = grown b out :=
  if hfree : b.free = 0 then formatOut_full b out h hfree else formatOut_room b out h hfree

theorem append_inv (b : SB) (s : List Nat) (h : Inv b) : Inv (b.append s) := by
  rw [append_eq b s h]; exact grown_inv s h

theorem formatOut_inv (b : SB) (out : List Nat) (h : Inv b) : Inv (b.formatOut out) := by
  rw [formatOut_eq b out h]; exact grown_inv out h

theorem formatOut_text (b : SB) (out : List Nat) (h : Inv b) : (b.formatOut out).text = specText b out := by
  rw [formatOut_eq b out h]; exact grown_text b out

theorem appendFormat_eq (b : SB) (pre out : List Nat) (hasSpec : Bool) (h : Inv b) :
    b.appendFormat pre out hasSpec = grown b (pre ++ if hasSpec then out else []) := by
  have h1 : (if pre.isEmpty then b else b.append pre) = grown b pre := by
    split
    · rename_i he; rw [List.isEmpty_iff.mp he, grown_nil b h]
    · exact append_eq b pre h
  unfold SB.appendFormat; dsimp only
  rw [h1]
  cases hasSpec
  · exact (congrArg (grown b) (List.append_nil pre)).symm
  · exact (formatOut_eq _ out (grown_inv pre h)).trans (grown_append b pre out)

/-- the reference: what the text must be after an operation (`none`: the operation must be refused). -/
def specOp (fixed : Bool) (cap : Nat) (t : List Nat) : Op → Option (List Nat)
  | .append s => some (if fixed then (t ++ s).take cap else t ++ s)
  | .num x => some (if fixed then (t ++ numText x).take cap else t ++ numText x)
  | .format p o h => some (if fixed then (t ++ p ++ (if h then o else [])).take cap else t ++ p ++ (if h then o else []))
  | .resize n c =>
    if n > t.length then (if fixed ∧ n > cap then none else some (t ++ List.replicate (n - t.length) c)) else some (t.take n)
  | .clear => some []

theorem some_none_iff {α β} {x : α} {y : β} : (some x = none ↔ some y = none) :=
  ⟨fun h => absurd h (Option.some_ne_none x), fun h => absurd h (Option.some_ne_none y)⟩

theorem grown_step (b : SB) (s : List Nat) (h : Inv b) :
    specText b s = (grown b s).text ∧ Inv (grown b s) ∧ isFixed (grown b s) = isFixed b ∧ (grown b s).cap = b.cap :=
  ⟨(grown_text b s).symm, grown_inv s h, grown_kind b s⟩

theorem resize_spec (b : SB) (n c : Nat) (h : Inv b) :
    (specOp (isFixed b) b.cap b.text (.resize n c) = none ↔ b.resize n c = none) ∧
    ∀ b', b.resize n c = some b' → specOp (isFixed b) b.cap b.text (.resize n c) = some b'.text ∧ Inv b' ∧
      isFixed b' = isFixed b ∧ b'.cap = b.cap := by
  unfold SB.resize specOp; dsimp only
  by_cases hgt : n > b.text.length
  · rw [if_pos hgt, if_pos hgt, append_eq _ _ h]
    have hfx : isFixed b = true ↔ b.kind = .buf false := beq_iff_eq
    have hsz : b.kind = .buf false → b.size = b.cap := fun hk => by unfold SB.size; rw [hk]
    have hc : (n > b.size ∧ b.kind = .buf false) ↔ (isFixed b = true ∧ n > b.cap) :=
      ⟨fun ⟨h1, h2⟩ => ⟨hfx.mpr h2, hsz h2 ▸ h1⟩, fun ⟨h1, h2⟩ => ⟨(hsz (hfx.mp h1)).symm ▸ h2, hfx.mp h1⟩⟩
    by_cases hbig : isFixed b = true ∧ n > b.cap
    · rw [if_pos hbig, if_pos (hc.mpr hbig)]; exact ⟨⟨fun _ => rfl, fun _ => rfl⟩, fun _ hb' => nomatch hb'⟩
    · rw [if_neg hbig, if_neg (mt hc.mp hbig)]
      refine ⟨some_none_iff, fun b' hb' => ?_⟩
      cases hb'
      obtain ⟨ht, rest⟩ := grown_step b (List.replicate (n - b.text.length) c) h
      refine ⟨?_, rest⟩
      rw [← ht, specText]
      split
      · rename_i hf
        have hn : n ≤ b.cap := Nat.le_of_not_lt fun hn => hbig ⟨hf, hn⟩
        rw [List.take_of_length_le (by
          rw [List.length_append, List.length_replicate, Nat.add_sub_cancel' (Nat.le_of_lt hgt)]; exact hn)]
      · rfl
  · rw [if_neg hgt, if_neg hgt]
    by_cases hlt : n < b.text.length
    · have hi : Inv { b with text := b.text.take n } :=
        ⟨h.noviol, fun hk => Nat.le_trans (List.length_take_le' _ _) (h.sbo hk),
          fun d hk => Nat.le_trans (List.length_take_le' _ _) (h.buf d hk)⟩
      have hn : n + 0 ≤ SB.maxIdx { b with text := b.text.take n } := by
        have := hi.len_le
        rw [size_eq_maxIdx] at this
        rwa [show ({ b with text := b.text.take n } : SB).text.length = n from
          List.length_take.trans (Nat.min_eq_left (Nat.le_of_lt hlt))] at this
      rw [if_pos hlt, store_ok (b := { b with text := b.text.take n }) h.noviol hn]
      refine ⟨some_none_iff, fun b' hb' => ?_⟩
      cases hb'
      exact ⟨rfl, hi, rfl, rfl⟩
    · rw [if_neg hlt]
      refine ⟨some_none_iff, fun b' hb' => ?_⟩
      cases hb'
      exact ⟨by rw [List.take_of_length_le (Nat.le_of_not_lt hlt)], h, rfl, rfl⟩

theorem step_spec (b : SB) (op : Op) (h : Inv b) :
    (specOp (isFixed b) b.cap b.text op = none ↔ b.step op = none) ∧
    ∀ b', b.step op = some b' → specOp (isFixed b) b.cap b.text op = some b'.text ∧ Inv b' ∧
      isFixed b' = isFixed b ∧ b'.cap = b.cap := by
  have hb0 : Inv { b with errno := false } := ⟨h.noviol, h.sbo, h.buf⟩
  have happ : ∀ s b', grown { b with errno := false } s = b' →
      some (specText { b with errno := false } s) = some b'.text ∧ Inv b' ∧ isFixed b' = isFixed b ∧ b'.cap = b.cap := by
    intro s b' hb'; subst hb'
    obtain ⟨ht, rest⟩ := grown_step _ s hb0
    exact ⟨congrArg some ht, rest⟩
  cases op with
  | append s =>
    exact ⟨some_none_iff, fun b' hb' => happ s b' ((append_eq _ s hb0).symm.trans (Option.some.inj hb'))⟩
  | num x =>
    exact ⟨some_none_iff, fun b' hb' => happ _ b' ((append_eq _ _ hb0).symm.trans (Option.some.inj hb'))⟩
  | format p o hs =>
    refine ⟨some_none_iff, fun b' hb' => ?_⟩
    have := happ _ b' ((appendFormat_eq _ p o hs hb0).symm.trans (Option.some.inj hb'))
    rwa [specText, ← List.append_assoc] at this
  | resize n c => exact resize_spec { b with errno := false } n c hb0
  | clear => exact resize_spec { b with errno := false } 0 0 hb0

/-- a refused operation (an exception in the library) leaves the builder unchanged. -/
def runSB : SB → List Op → SB
  | b, [] => b
  | b, op :: ops => match b.step op with
    | some b' => runSB b' ops
    | none => runSB b ops

def specRun (fixed : Bool) (cap : Nat) : List Nat → List Op → List Nat
  | t, [] => t
  | t, op :: ops => match specOp fixed cap t op with
    | some t' => specRun fixed cap t' ops
    | none => specRun fixed cap t ops

theorem run_spec : ∀ (ops : List Op) (b : SB), Inv b →
    Inv (runSB b ops) ∧ (runSB b ops).text = specRun (isFixed b) b.cap b.text ops := by
  intro ops
  induction ops with
  | nil => intro b h; exact ⟨h, rfl⟩
  | cons op ops ih =>
    intro b h
    have hst := step_spec b op h
    simp only [runSB, specRun]
    cases hs : b.step op with
    | none =>
      have : specOp (isFixed b) b.cap b.text op = none := hst.1.mpr hs
      simp only [this]
      exact ih b h
    | some b' =>
      obtain ⟨h1, h2, h3, h4⟩ := hst.2 b' hs
      simp only [h1]
      have := ih b' h2
      rw [h3, h4] at this
      exact this

/-- **C17.** For every history of appends (strings, character runs, numbers, formats), resizes and clears
    on a builder of any of the four kinds and any capacity: the text is exactly the concatenation of
    everything appended after the initial content (`specRun`: for the fixed-array kind the longest prefix
    that fits its capacity, and a resize beyond the capacity is refused), and no store of the run left the
    array it targeted (`viol = false`; for the fixed kind the text never exceeds the caller's `cap = n-1`
    characters plus the terminating NUL). -/
theorem C17_history (ops : List Op) (b : SB) (hinit : Inv b) :
    (runSB b ops).text = specRun (isFixed b) b.cap b.text ops ∧ (runSB b ops).viol = false ∧ Inv (runSB b ops) :=
  let r := run_spec ops b hinit
  ⟨r.2, r.1.noviol, r.1⟩

/-- the four ways to create a builder satisfy the invariant (initial content of a caller's string: any). -/
theorem C17_init : Inv mkSbo ∧ (∀ init, Inv (mkStr init)) ∧ (∀ n d, Inv (mkBuf n d)) :=
  ⟨⟨rfl, fun _ => Nat.zero_le _, nofun⟩, fun _ => ⟨rfl, nofun, nofun⟩, fun _ _ => ⟨rfl, nofun, fun _ _ => Nat.zero_le _⟩⟩

/-- truncation is signalled exactly when something was cut (single append; formatted appends:
    `C17_format_truncation`), and only the fixed kind ever cuts. -/
theorem C17_truncation (b : SB) (s : List Nat) (h : Inv b) :
    (b.append s).errno = (b.errno || (isFixed b && decide (b.text.length + s.length > b.cap))) ∧
    (isFixed b = false → (b.append s).text = b.text ++ s) := by
  rw [append_eq b s h]
  exact ⟨grown_errno b s, fun hf => by rw [grown_text, specText, hf]; rfl⟩

theorem formatOut_errno (b : SB) (out : List Nat) (h : Inv b) : (b.formatOut out).errno = (b.errno || specCut b out) := by
  rw [formatOut_eq b out h]; exact grown_errno b out

/-- **truncation of formatted appends**: `appendFormat` (literal prefix + one conversion) signals ERANGE exactly when prefix plus
    formatted text do not fit a fixed caller array; the other kinds never signal it. -/
theorem C17_format_truncation (b : SB) (pre out : List Nat) (hasSpec : Bool) (h : Inv b) :
    (b.appendFormat pre out hasSpec).errno =
      (b.errno || (isFixed b && decide (b.text.length + pre.length + (if hasSpec then out.length else 0) > b.cap))) := by
  rw [appendFormat_eq b pre out hasSpec h, grown_errno, specCut, List.length_append, Nat.add_assoc]
  cases hasSpec <;> rfl

example : (runSB (mkBuf 5 false) [.append [97, 98, 99], .format [100] [101, 102] true, .num (-7)]).text = [97, 98, 99, 100] := by decide +kernel
example : (runSB mkSbo [.append (List.replicate 63 120), .format [] [65] true]).kind = .str true := by decide +kernel

end PotasscoVerif.C17
