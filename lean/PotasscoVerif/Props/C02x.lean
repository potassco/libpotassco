/-
  C02 (continued) — externals passed on with the clasp extension.
  With the extension switched on the converter does not compile external directives away: at the end of the step it emits
  `external(image, value)` for every pending external (`C02_externals_passed`).  Reading the emitted external calls the way the given ones are
  read (`progOf`), the emitted program has the same answer sets as the given one (`C02_stable_models_ext`) — no restriction on the externals.
  A program step is one `stepRun` from the state after `initProgram` (`convert_stepRun`).
-/
import PotasscoVerif.Props.C02sem
import PotasscoVerif.Lemmas.ConvertStepsOut
namespace PotasscoVerif.C02
open PotasscoVerif PotasscoVerif.Convert PotasscoVerif.Asp

/-- **C02 (externals passed on)**: with the extension on, the external calls of the emitted step are exactly the pending externals of the
    given step — the atoms declared external while no rule had defined them, in the order of declaration —, each as (image of the atom,
    last value declared for it) -/
theorem C02_externals_passed (inc : Bool) (ds : List Call) (hx : ∀ d ∈ ds, PlainOk d) :
    extCalls (convert true (stepCalls inc ds)).out =
      ((({} : T).run ds).regs).map (fun a => (finalMap (convert true (stepCalls inc ds)) a, (({} : T).run ds).val a)) := by
  obtain ⟨a1, d1, he⟩ := init_JX true inc
  obtain ⟨defs, hj, _⟩ := step_JX a1 d1 rfl ds hx (Or.inr he)
  rw [convert_stepRun]
  exact (step_extCalls a1 d1 ds hx he).2 _ (agree_final _ hj.inv)

/-- with the externals read on both sides, the emitted step is a translation of the given one, for any table of auxiliary atoms the translation
    invariant holds with -/
theorem step_trans_ext (inc : Bool) (ds : List Call) (hx : ∀ d ∈ ds, PlainOk d) {defs : List (Nat × Body)}
    (hj : J (convert true (stepCalls inc ds)) ((rulesOf ds).filter kept) defs) :
    Trans (ctxOf (convert true (stepCalls inc ds)) defs) ((rulesOf ds).filter kept ++ extRules ds) (progOf (convert true (stepCalls inc ds)).out) := by
  obtain ⟨a1, d1, he⟩ := init_JX true inc
  have hH : ∀ b ∈ (({} : T).run ds).heads, b ∈ headsOf ds := fun b hb => by rw [run_heads] at hb; exact hb
  refine trans_extRules (L := (({} : T).run ds).regs.map fun a => (a, (({} : T).run ds).val a)) hj ?_ (fun p hp => ?_) ?_
    fun a _ hc => run_last ds {} rfl _ hH a (by simpa using hc)
  · rw [C02_externals_passed inc ds hx, List.map_map]; rfl
  · obtain ⟨a, ha, rfl⟩ := List.mem_map.mp hp
    rw [convert_stepRun]; exact (step_extCalls a1 d1 ds hx he).1 a ha
  · simpa [List.map_map, Function.comp_def] using run_regs ds {} _ hH

theorem step_ext_out (inc : Bool) (ds : List Call) (hx : ∀ d ∈ ds, PlainOk d) (hnh : ∀ d ∈ ds, isHeu d = false) :
    ∃ defs, J (convert true (stepCalls inc ds)) ((rulesOf ds).filter kept) defs ∧ KO (convert true (stepCalls inc ds)) (srcOuts ds) defs ∧
      MO (convert true (stepCalls inc ds)) (minsOf ds) := by
  obtain ⟨a1, d1, he⟩ := init_JX true inc
  obtain ⟨k1, m1⟩ := init_KO_MO true inc
  obtain ⟨defs, hj, _, hko, hmo⟩ := step_JXO a1 d1 rfl k1 ds hx hnh (Or.inr he)
  rw [convert_stepRun]
  exact ⟨defs, hj, hko, hmo [] m1⟩

/-- **C02 (answer sets, externals passed on with the extension)**.  For every program step made of rules (all head kinds, normal and weight
    bodies), minimize statements, output, edge and heuristic directives and ANY external directives, converted with the clasp extension on:
    reading the external calls of the emitted step as those of the given step are read (`progOf`), there is an extension `E` of
    interpretations to the auxiliary atoms such that the stable models of the given step and those of the emitted step in which the false
    atom `1` is false correspond one to one under `E` and the restriction to the mapped atoms. -/
theorem C02_stable_models_ext (inc : Bool) (ds : List Call) (hx : ∀ d ∈ ds, PlainOk d) :
    ∃ E : I → I,
      (∀ X, Stable (progOf ds) X →
        Stable (progOf (convert true (stepCalls inc ds)).out) (E X) ∧ E X 1 = false ∧ restrict (convert true (stepCalls inc ds)) (E X) = X) ∧
      (∀ X', Stable (progOf (convert true (stepCalls inc ds)).out) X' → X' 1 = false →
        Stable (progOf ds) (restrict (convert true (stepCalls inc ds)) X') ∧ E (restrict (convert true (stepCalls inc ds)) X') = X') := by
  obtain ⟨a1, d1, he⟩ := init_JX true inc
  obtain ⟨defs, hj, _⟩ := step_JX a1 d1 rfl ds hx (Or.inr he)
  have hj : J (convert true (stepCalls inc ds)) ((rulesOf ds).filter kept) defs := by rw [convert_step]; exact hj
  exact ⟨_, answer_sets hj (step_trans_ext inc ds hx hj)⟩

/-- **C02 (answer sets and shown symbols, externals passed on)**: `C02_stable_models_ext` with the same extension `E`, and under corresponding
    answer sets exactly the same symbol names are shown (steps without heuristic directives, as in `C02_equivalence`) -/
theorem C02_equivalence_ext (inc : Bool) (ds : List Call) (hx : ∀ d ∈ ds, PlainOk d) (hnh : ∀ d ∈ ds, isHeu d = false) :
    ∃ E : I → I,
      (∀ X, Stable (progOf ds) X →
        Stable (progOf (convert true (stepCalls inc ds)).out) (E X) ∧ E X 1 = false ∧ restrict (convert true (stepCalls inc ds)) (E X) = X) ∧
      (∀ X', Stable (progOf (convert true (stepCalls inc ds)).out) X' → X' 1 = false →
        Stable (progOf ds) (restrict (convert true (stepCalls inc ds)) X') ∧ E (restrict (convert true (stepCalls inc ds)) X') = X') ∧
      (∀ X name, shown ds X name ↔ shownOut (convert true (stepCalls inc ds)).out (E X) name) := by
  obtain ⟨defs, hj, hko, _⟩ := step_ext_out inc ds hx hnh
  obtain ⟨h1, h2⟩ := answer_sets hj (step_trans_ext inc ds hx hj)
  exact ⟨_, h1, h2, shown_iff hj hko⟩

/-- **C02 (optimisation, externals passed on)**: as `C02_cost`, with the extension on and any externals -/
theorem C02_cost_ext (inc : Bool) (ds : List Call) (hx : ∀ d ∈ ds, PlainOk d) (hnh : ∀ d ∈ ds, isHeu d = false) :
    ∃ E : I → I,
      (∀ X, Stable (progOf ds) X →
        Stable (progOf (convert true (stepCalls inc ds)).out) (E X) ∧ E X 1 = false ∧ restrict (convert true (stepCalls inc ds)) (E X) = X) ∧
      (∀ X', Stable (progOf (convert true (stepCalls inc ds)).out) X' → X' 1 = false → E (restrict (convert true (stepCalls inc ds)) X') = X') ∧
      (∀ X p, costAt (convert true (stepCalls inc ds)).out p (E X) = costAt ds p X - negM (minsOf ds) p) := by
  obtain ⟨defs, hj, _, hmo⟩ := step_ext_out inc ds hx hnh
  obtain ⟨h1, h2⟩ := answer_sets hj (step_trans_ext inc ds hx hj)
  exact ⟨_, h1, fun X' hs h0 => (h2 X' hs h0).2, cost_eq hj hmo hx⟩

/-! non-vacuity: a step with externals of all four values, one of them on an atom a later rule defines, one declared twice -/
def exExt : List Call :=
  [.external 1 1, .external 2 0, .external 3 2, .external 4 3, .external 5 1, .external 2 1, .rule 0 [5] [1, -2], .rule 1 [6] [3], .output [97] [5]]

example : ∀ d ∈ exExt, PlainOk d := by decide

example : extCalls (convert true (stepCalls false exExt)).out = [(2, 1), (3, 1), (4, 2), (5, 3), (6, 1), (3, 1)] := by decide +kernel

end PotasscoVerif.C02
