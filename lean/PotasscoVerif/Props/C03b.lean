/-
  C03 (continued) — the reported line (`C03_line_bound`).

  The measure `a.line + nl a.rest` never grows along any stream operation and the line counter never shrinks: so every state the
  reader can be in, and hence every line it can report, is bounded by the measure of the initial state, `1 + nl input`.
-/
import PotasscoVerif.Props.C04
import PotasscoVerif.Lemmas.AspifLang
namespace PotasscoVerif.C03
open PotasscoVerif PotasscoVerif.CharStream PotasscoVerif.AspifIn
open PotasscoVerif.BufferedStream (IntRes isWs isDigit)

/-- line ends in a text: every CR, and every LF that does not follow a CR -/
def nlAux : Bool → List Nat → Nat
  | _, [] => 0
  | prevCR, c :: r => (if c == 13 then 1 else if c == 10 && !prevCR then 1 else 0) + nlAux (c == 13) r

def nl (l : List Nat) : Nat := nlAux false l

/-- only a LF at the head is counted differently after a CR -/
theorem nlAux_true (r : List Nat) : nlAux true r ≤ nl r ∧ nl r ≤ nlAux true r + 1 ∧ ((∀ r', r ≠ 10 :: r') → nl r = nlAux true r) := by
  cases r with
  | nil => exact ⟨Nat.le_refl _, Nat.le_succ _, fun _ => rfl⟩
  | cons c r =>
    by_cases h : c = 10
    · subst h; exact ⟨by show 0 + _ ≤ 1 + _; omega, by show 1 + _ ≤ 0 + _ + 1; omega, fun h => absurd rfl (h r)⟩
    · have : ∀ b, nlAux b (c :: r) = (if c == 13 then 1 else 0) + nlAux (c == 13) r := fun b => by
        simp only [nlAux, beq_eq_false_iff_ne.mpr h, Bool.false_and, Bool.false_eq_true, ↓reduceIte]
      rw [nl, this, this]; exact ⟨Nat.le_refl _, Nat.le_succ _, fun _ => rfl⟩

theorem nl_cons_ge (c : Nat) (r : List Nat) : nl r ≤ nl (c :: r) := by
  by_cases h : c = 13
  · subst h; have := (nlAux_true r).2.1; show _ ≤ 1 + nlAux true r; omega
  · simp only [nl, nlAux, beq_eq_false_iff_ne.mpr h]; exact Nat.le_add_left _ _

theorem nl_suffix {s l : List Nat} (h : s <:+ l) : nl s ≤ nl l := by
  induction l with
  | nil => rw [List.eq_nil_of_suffix_nil h]; exact Nat.le_refl _
  | cons c r ih =>
    rcases List.suffix_cons_iff.mp h with h | h
    · rw [h]; exact Nat.le_refl _
    · exact Nat.le_trans (ih h) (nl_cons_ge c r)

/-- `a'` may be reached from `a` -/
def LE (a a' : AS) : Prop := a.line ≤ a'.line ∧ a'.line + nl a'.rest ≤ a.line + nl a.rest ∧ a'.rest <:+ a.rest
/-- `l` is a line some state reachable from `a` may report -/
def Bnd (a : AS) (l : Nat) : Prop := a.line ≤ l ∧ l ≤ a.line + nl a.rest

theorem LE.refl (a : AS) : LE a a := ⟨Nat.le_refl _, Nat.le_refl _, List.suffix_refl _⟩
theorem LE.trans {a b c : AS} (h1 : LE a b) (h2 : LE b c) : LE a c := ⟨Nat.le_trans h1.1 h2.1, Nat.le_trans h2.2.1 h1.2.1, h2.2.2.trans h1.2.2⟩
theorem LE.bnd {a b : AS} (h : LE a b) : Bnd a b.line := ⟨h.1, Nat.le_trans (Nat.le_add_right _ _) h.2.1⟩
theorem Bnd.of_le {a b : AS} {l : Nat} (h : LE a b) (hb : Bnd b l) : Bnd a l := ⟨Nat.le_trans h.1 hb.1, Nat.le_trans hb.2 h.2.1⟩
theorem LE.of_suffix {a b : AS} (hl : b.line = a.line) (hs : b.rest <:+ a.rest) : LE a b :=
  ⟨Nat.le_of_eq hl.symm, hl ▸ Nat.add_le_add_left (nl_suffix hs) _, hs⟩

theorem get_le (a : AS) : LE a a.get.2 := by
  rcases a.get_cases with ⟨_, _, hr, hl⟩ | ⟨_, hl, h⟩ | ⟨hr, hl, _⟩
  · exact LE.of_suffix hl (hr ▸ List.suffix_refl _)
  · have : nl a.get.2.rest + 1 ≤ nl a.rest ∧ a.get.2.rest <:+ a.rest := by
      rcases h with h | h | ⟨h, hn⟩ <;> rw [h]
      · exact ⟨by show _ ≤ 1 + nl _; omega, List.suffix_cons _ _⟩
      · exact ⟨by show _ ≤ 1 + (0 + nl _); omega, ⟨[13, 10], rfl⟩⟩
      · exact ⟨by rw [(nlAux_true _).2.2 hn]; show _ ≤ 1 + nlAux true _; omega, List.suffix_cons _ _⟩
    exact ⟨hl ▸ Nat.le_succ _, by omega, this.2⟩
  · refine LE.of_suffix hl ?_
    rw [hr]; exact List.suffix_cons _ _

theorem skipWsF_le (f : Nat) (a : AS) : LE a (AS.skipWsF f a) := by
  induction f generalizing a with
  | zero => exact LE.refl a
  | succ f ih =>
    rw [AS.skipWsF]
    split
    · exact (get_le a).trans (ih _)
    · exact LE.refl a

theorem skipWs_le (a : AS) : LE a a.skipWs := skipWsF_le _ { a with canUnget := false }

theorem matchTok_le (a : AS) (w : List Nat) : LE a (a.matchTok w).2 := by
  rw [AS.matchTok]
  split
  · exact LE.of_suffix rfl (List.drop_suffix _ _)
  · exact LE.refl a

theorem matchIntDigits_le (a : AS) (sg : Nat) : LE a (AS.matchIntDigits a sg).2 := by
  rw [AS.matchIntDigits]
  split
  · exact LE.refl a
  · exact LE.of_suffix rfl ⟨_, BufferedStream.digitRun_append _⟩

theorem matchInt_le (a : AS) : LE a (a.matchInt false).2 := by
  rw [AS.matchInt, if_neg Bool.false_ne_true, AS.matchIntCore]
  refine (skipWs_le a).trans (LE.trans ?_ (matchIntDigits_le _ _))
  split
  · exact LE.of_suffix rfl (List.tail_suffix _)
  · exact LE.refl _

theorem copy_le (a : AS) (n : Nat) : LE a (a.copy n).2 := LE.of_suffix rfl (List.drop_suffix _ _)

theorem skipLineF_succ (f : Nat) (a : AS) :
    skipLineF (f + 1) a = if a.peek == 0 then a else if a.get.1 == 10 then a.get.2 else skipLineF f a.get.2 := rfl

theorem skipLineF_le (f : Nat) (a : AS) : LE a (skipLineF f a) := by
  induction f generalizing a with
  | zero => exact LE.refl a
  | succ f ih =>
    rw [skipLineF_succ]
    split
    · exact LE.refl a
    · split
      · exact get_le a
      · exact (get_le a).trans (ih _)

def Res {α : Type} (a : AS) : Except Nat (α × AS) → Prop
  | .ok (_, a') => LE a a'
  | .error l => Bnd a l

theorem Res.of_le {α : Type} {a b : AS} {r : Except Nat (α × AS)} (h : LE a b) (hr : Res b r) : Res a r := by
  cases r with
  | error l => exact Bnd.of_le h hr
  | ok r => exact h.trans hr

theorem Res.bind {α β : Type} {a : AS} {r : Except Nat (α × AS)} {g : α × AS → Except Nat (β × AS)} (hr : Res a r) (hg : ∀ x b, Res b (g (x, b))) :
    Res a (r >>= g) := by
  cases r with
  | error l => exact hr
  | ok r => exact Res.of_le hr (hg r.1 r.2)

structure Mono {α : Type} (p : P α) : Prop where
  res : ∀ a, Res a (p a)

theorem Mono.bind {α β : Type} {p : P α} {g : α × AS → Except Nat (β × AS)} (hp : Mono p) (hg : ∀ x, Mono (fun a' => g (x, a'))) :
    Mono (fun a => p a >>= g) := ⟨fun a => (hp.res a).bind fun x => (hg x).res⟩
theorem Mono.pure {α : Type} (x : α) : Mono (fun a => (Pure.pure (x, a) : Except Nat (α × AS))) := ⟨LE.refl⟩
theorem Mono.error {α : Type} : Mono (fun a => (.error a.line : Except Nat (α × AS))) := ⟨fun a => (LE.refl a).bnd⟩
theorem Mono.ite {α : Type} (c : Prop) [Decidable c] {p q : P α} (hp : Mono p) (hq : Mono q) : Mono (fun a => if c then p a else q a) := by
  split
  · exact hp
  · exact hq

theorem intIf_mono (c : Int → Prop) [DecidablePred c] : Mono (AspifLang.intIf c) := by
  refine ⟨fun a => ?_⟩
  have hle := matchInt_le a
  unfold AspifLang.intIf
  split <;> rename_i h <;> rw [h] at hle
  · split
    · exact hle
    · exact hle.bnd
  · exact hle.bnd

theorem intIn_mono (lo hi : Int) : Mono (intIn lo hi) := AspifLang.intIn_eq lo hi ▸ intIf_mono _
theorem lit_mono : Mono lit := AspifLang.lit_eq ▸ intIf_mono _
theorem natIn_mono (lo hi : Nat) : Mono (AspifLang.natIn lo hi) := Mono.bind (intIn_mono lo hi) fun _ => Mono.pure _
theorem posMax_mono (m : Nat) : Mono (posMax m) := natIn_mono 0 m
theorem pos_mono : Mono pos := posMax_mono _
theorem atom_mono : Mono atom := natIn_mono _ _

theorem wlit_mono (minW : Int) : Mono (wlit minW) :=
  Mono.bind lit_mono (fun _ => Mono.bind (intIn_mono _ _) (fun _ => Mono.pure _))

theorem rep_mono {α : Type} (p : P α) (hp : Mono p) : ∀ (n : Nat) (acc : List α), Mono (rep p n acc) := by
  intro n
  induction n with
  | zero => exact fun acc => Mono.pure _
  | succ n ih => exact fun acc => Mono.bind hp (fun x => ih _)

theorem counted_mono {α : Type} (p : P α) (hp : Mono p) : Mono (counted p) := Mono.bind pos_mono (fun n => rep_mono p hp n [])

theorem atoms_mono : Mono atoms := counted_mono _ atom_mono
theorem lits_mono : Mono lits := counted_mono _ lit_mono
theorem ids_mono : Mono ids := counted_mono _ pos_mono
theorem wlits_mono (minW : Int) : Mono (wlits minW) := Mono.bind (counted_mono _ (wlit_mono minW)) (fun _ => Mono.pure _)

theorem bytes_mono (n : Nat) : Mono (AspifLang.bytes n) := by
  refine ⟨fun a => ?_⟩
  have h : LE a (a.get.2.copy n).2 := (get_le a).trans (copy_le _ _)
  unfold AspifLang.bytes
  split
  · exact h
  · exact h.bnd

theorem string_mono : Mono AspifIn.string := Mono.bind pos_mono bytes_mono

/-- the shape `if c then throw line` of a `do` block takes in front of its continuation `k` -/
theorem Res.guard {β : Type} {a : AS} {c : Prop} [Decidable c] {k : PUnit → Except Nat (β × AS)} (h : Res a (k ⟨⟩)) :
    Res a (if c then throw a.line >>= k else k ⟨⟩) := by
  split
  · exact (LE.refl a).bnd
  · exact h

-- `Res a r` is defined by cases on `r`: `pos` is sealed so that the unifier does not unfold the parser to decide them
attribute [local irreducible] pos in
theorem header_le (a : AS) (r : Except Nat (Bool × AS)) (h : header a = some r) : Res a r := by
  unfold header at h
  extract_lets a0 at h
  split at h
  rename_i ok a1 hm
  have h0 : LE a a1 := by have := (skipWs_le a).trans (matchTok_le a0 [97, 115, 112, 32]); rwa [hm] at this
  cases ok with
  | false => cases h
  | true =>
    cases h
    refine Res.of_le h0 ?_
    refine (pos_mono.res a1).bind fun ma a2 => ?_
    refine Res.guard ?_
    refine (pos_mono.res a2).bind fun mi a3 => ?_
    refine Res.guard ?_
    refine (pos_mono.res a3).bind fun rev a4 => ?_
    exact LE.trans (b := { a4 with rest := a4.rest.dropWhile (· == 32) }) (LE.of_suffix rfl (List.dropWhile_suffix _)) (matchTok_le _ _)

theorem theory_mono (rt : Nat) : Mono (theory rt) := by
  unfold theory
  refine Mono.bind pos_mono (fun tId => ?_)
  refine Mono.ite _ (Mono.bind (intIn_mono _ _) (fun n => Mono.pure _)) ?_
  refine Mono.ite _ (Mono.bind string_mono (fun n => Mono.pure _)) ?_
  refine Mono.ite _ (Mono.bind (intIn_mono _ _) (fun t => Mono.bind ids_mono (fun args => Mono.pure _))) ?_
  refine Mono.ite _ (Mono.bind ids_mono (fun ts => Mono.bind lits_mono (fun c => Mono.pure _))) ?_
  refine Mono.ite _ (Mono.bind pos_mono (fun t => Mono.bind ids_mono (fun es => Mono.pure _))) ?_
  refine Mono.ite _ (Mono.bind pos_mono (fun t => Mono.bind ids_mono (fun es => Mono.bind pos_mono (fun op => Mono.bind pos_mono (fun rhs => Mono.pure _))))) ?_
  exact Mono.error

theorem directive_mono (rt : Nat) : Mono (directive rt) := by
  unfold directive
  refine Mono.ite _ (Mono.bind (posMax_mono _) (fun ht => Mono.bind atoms_mono (fun hd => Mono.bind (posMax_mono _) (fun bt =>
    Mono.ite _ (Mono.bind lits_mono (fun b => Mono.pure _)) (Mono.bind (intIn_mono _ _) (fun bnd => Mono.bind (wlits_mono _) (fun b => Mono.pure _))))))) ?_
  refine Mono.ite _ (Mono.bind (intIn_mono _ _) (fun p => Mono.bind (wlits_mono _) (fun b => Mono.pure _))) ?_
  refine Mono.ite _ (Mono.bind atoms_mono (fun l => Mono.pure _)) ?_
  refine Mono.ite _ (Mono.bind string_mono (fun s => Mono.bind lits_mono (fun c => Mono.pure _))) ?_
  refine Mono.ite _ (Mono.bind atom_mono (fun x => Mono.bind (posMax_mono _) (fun v => Mono.pure _))) ?_
  refine Mono.ite _ (Mono.bind lits_mono (fun l => Mono.pure _)) ?_
  refine Mono.ite _ (Mono.bind (posMax_mono _) (fun t => Mono.bind atom_mono (fun x => Mono.bind (intIn_mono _ _) (fun bias =>
    Mono.bind (posMax_mono _) (fun prio => Mono.bind lits_mono (fun c => Mono.pure _)))))) ?_
  refine Mono.ite _ (Mono.bind (posMax_mono _) (fun s => Mono.bind (posMax_mono _) (fun t => Mono.bind lits_mono (fun c => Mono.pure _)))) ?_
  refine Mono.ite _ (Mono.bind pos_mono (fun tt => Mono.bind (theory_mono tt) (fun c => Mono.pure _))) ?_
  refine Mono.ite _ ⟨fun a => skipLineF_le _ a⟩ ?_
  exact Mono.error

/-- a step that succeeds has consumed a character: so the fuel of `stepsLoop` does not run out -/
def StepRes (a : AS) : Except Nat AS → Prop
  | .error l => Bnd a l
  | .ok a1 => LE a a1 ∧ a1.rest.length < a.rest.length

def RoundRes (a : AS) : Round → Prop
  | .stop r => StepRes a r
  | .cont _ a2 => LE a a2

theorem StepRes.of_le {a b : AS} {r : Except Nat AS} (h : LE a b) (hr : StepRes b r) : StepRes a r := by
  cases r with
  | error l => exact Bnd.of_le h hr
  | ok r => exact ⟨h.trans hr.1, Nat.lt_of_lt_of_le hr.2 h.2.2.length_le⟩

attribute [local irreducible] posMax directive in
theorem dirStep_le (a : AS) : RoundRes a (dirStep a) := by
  unfold dirStep
  have hp := (posMax_mono (N Gen.Directive_t_eMax)).res a
  split
  · rename_i l h; rw [h] at hp; exact hp
  · rename_i rt a1 h
    rw [h] at hp
    split
    · obtain ⟨w, e, hw⟩ := AspifLang.posMax_sound false _ (by decide) a rt a1 h
      have := AspifLang.num_pos hw
      exact ⟨hp, by rw [e, List.length_append]; omega⟩
    · have hd := (directive_mono rt).res a1
      split <;> rename_i h' <;> rw [h'] at hd
      · exact Bnd.of_le hp hd
      · exact hp.trans hd

theorem stepLoop_le (f : Nat) (a : AS) (acc : List Call) : StepRes a (stepLoop f a acc).2 := by
  induction f generalizing a acc with
  | zero => exact (LE.refl a).bnd
  | succ f ih =>
    rw [C04.stepLoop_succ]
    have hd := dirStep_le a
    generalize dirStep a = rd at hd
    cases rd with
    | stop r => exact hd
    | cont c a2 => exact (ih _ _).of_le hd

attribute [local irreducible] stepLoop in
theorem stepsLoop_le (f : Nat) (inc : Bool) (a : AS) (acc : List Call) (l : Nat) (hf : a.rest.length < f) (h : (stepsLoop f inc a acc).err = some l) : Bnd a l := by
  induction f generalizing a acc with
  | zero => exact absurd hf (Nat.not_lt_zero _)
  | succ f ih =>
    rw [C04.stepsLoop_succ] at h
    have hs := stepLoop_le (a.rest.length + 1) a []
    generalize stepLoop (a.rest.length + 1) a [] = r at hs h
    obtain ⟨cs, _ | a1⟩ := r
    · cases h; exact hs
    · have hm : LE a (more a1).2 := hs.1.trans (skipWs_le a1)
      dsimp only at h
      generalize (more a1).1 = m at h
      cases m
      · cases h
      · cases inc
        · cases h; exact hm.bnd
        · exact Bnd.of_le hm (ih (more a1).2 _ (Nat.lt_of_le_of_lt (skipWs_le a1).2.2.length_le (Nat.lt_of_lt_of_le hs.2 (Nat.le_of_lt_succ hf))) h)

def lines (t : List Nat) : Nat := 1 + nl t

/-- **C03 (reported line)**: whenever the aspif reader rejects a text, the line number it reports lies between 1 and the number
    of lines of the text (one more than the number of line ends LF, CR or CRLF). -/
theorem C03_line_bound (t : List Nat) (l : Nat) (h : (AspifIn.read t).err = some l) : 1 ≤ l ∧ l ≤ lines t := by
  suffices Bnd (AS.init t) l from this
  unfold AspifIn.read at h
  extract_lets a at h
  have hh := header_le a
  generalize header a = hd at hh h
  rcases hd with _ | _ | ⟨inc, a1⟩
  · cases h; exact (skipWs_le _).bnd
  · cases h; exact hh _ rfl
  · have h1 : LE a a1.get.2 := LE.trans (hh _ rfl) (get_le a1)
    dsimp only at h
    split at h
    · cases h; exact h1.bnd
    · exact Bnd.of_le h1 (stepsLoop_le _ inc _ _ l (Nat.lt_succ_self _) h)

/-- the bound is attained: `asp 1 0 0␤1 0` is rejected in line 2 of 2 -/
example : (AspifIn.read [97, 115, 112, 32, 49, 32, 48, 32, 48, 10, 49, 32, 48]).err = some 2 ∧ lines [97, 115, 112, 32, 49, 32, 48, 32, 48, 10, 49, 32, 48] = 2 := by decide +kernel

end PotasscoVerif.C03
