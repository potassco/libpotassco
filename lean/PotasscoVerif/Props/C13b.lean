/-
  C13 (continued) — whole argument lists.
  `Sp` has one constructor per spelling (not among them: `-o` / `-ovalue` for an option with an implicit value that is no flag, and a
  positional token that no option takes); `C13_argv`: parsing a token list it generates returns exactly the intended pairs in order and
  leaves exactly the intended tokens (unknown ones, and everything behind `--`) in order.
-/
import PotasscoVerif.Props.C13
namespace PotasscoVerif.C13
open PotasscoVerif.Options PotasscoVerif.OptIndex

abbrev dd : List Nat := [45, 45]     -- "--"

abbrev noP : List Nat := [110, 111, 45]   -- "no-"

/-- `--no-name` for a negatable option (and `no-name` is not itself an option): the pair (option, "no") -/
theorem C13_long_neg (c : Context) (aU aF : Bool) (name : List Nat) (k : Nat) (p : PState) (hname : ∀ x ∈ name, x ≠ 61)
    (hno : getOption c aU (noP ++ name) .nameOrPrefix = .ok none ∨ ∃ key, getOption c aU (noP ++ name) .nameOrPrefix = .error (.unknown key))
    (hget : getOption c aU name .nameOrPrefix = .ok (some k)) (hneg : (optOf c k).negatable = true) :
    handleLong c aU aF (noP ++ name) p = .ok (true, p.addValue k [110, 111]) := by
  unfold handleLong
  have hn' : ∀ x ∈ noP ++ name, x ≠ 61 := fun x hx =>
    (List.mem_append.mp hx).elim (fun h e => by subst e; revert h; decide) (hname x)
  rw [splitEq_none _ hn']
  have hpre : noP.isPrefixOf (noP ++ name) = true := rfl
  have hdrop : (noP ++ name).drop 3 = name := rfl
  simp only [Option.getD_none, List.isEmpty_nil, hpre, Bool.and_self, ↓reduceIte, hdrop, hget, hneg]
  rcases hno with h | ⟨key, h⟩
  · have h' : getOption c aU (110 :: 111 :: 45 :: name) .nameOrPrefix = .ok none := h
    simp [h', PState.addValue]
  · have h' : getOption c aU (110 :: 111 :: 45 :: name) .nameOrPrefix = .error (.unknown key) := h
    simp [h', PState.addValue]

/-- `--xyz…` that names no option (unknown options allowed) and is no negation: not handled, the token is left -/
theorem C13_long_unknown (c : Context) (aU aF : Bool) (r : List Nat) (p : PState) (hneg : noP.isPrefixOf r = false)
    (hget : getOption c aU (splitEq r).1 .nameOrPrefix = .ok none) : handleLong c aU aF r p = .ok (false, p) := by
  unfold handleLong
  cases hs : splitEq r with
  | mk name vopt =>
    rw [hs] at hget
    simp only [hneg, Bool.and_false, Bool.false_eq_true, ↓reduceIte, hget]

theorem handleShort_unknown (c : Context) (aU : Bool) (a : Nat) (r : List Nat) (p : PState) (f : Nat)
    (hget : getOption c aU [a] .alias = .ok none) : handleShort c aU (f + 1) (a :: r) p = .ok (false, p) := by
  simp only [handleShort, hget]

theorem handlePos_known (c : Context) (aU : Bool) (pos : Option (List Nat)) (tok : List Nat) (k : Nat) (p : PState)
    (hget : getOption c aU (pos.getD [80, 111, 115, 105, 116, 105, 111, 110, 97, 108, 32, 79, 112, 116, 105, 111, 110]) .nameOrPrefix = .ok (some k)) :
    handlePos c aU pos tok p = .ok (true, p.addValue k tok) := by
  simp only [handlePos, hget]

/-- `Sp ps rm ts`: the tokens `ts` are one way of writing the pairs `ps` (in order) and the left-over tokens `rm` (in order) -/
inductive Sp (c : Context) (aU aF : Bool) (pos : Option (List Nat)) : List (Nat × List Nat) → List (List Nat) → List (List Nat) → Prop
  | nil : Sp c aU aF pos [] [] []
  /-- `--name=value` (also with a unique prefix of the name) -/
  | longEq (name v : List Nat) (k : Nat) {ps rm ts} (hne : name ≠ []) (hname : ∀ x ∈ name, x ≠ 61) (hv : v ≠ [])
      (hget : getOption c aU name .nameOrPrefix = .ok (some k)) (hflag : (optOf c k).flag = false ∨ aF = true)
      (t : Sp c aU aF pos ps rm ts) : Sp c aU aF pos ((k, v) :: ps) rm ((dd ++ (name ++ 61 :: v)) :: ts)
  /-- `--name value` for an option that requires a value -/
  | longSep (name v : List Nat) (k : Nat) {ps rm ts} (hne : name ≠ []) (hname : ∀ x ∈ name, x ≠ 61) (hneg : [110, 111, 45].isPrefixOf name = false)
      (hget : getOption c aU name .nameOrPrefix = .ok (some k)) (himp : (optOf c k).implicit = false)
      (t : Sp c aU aF pos ps rm ts) : Sp c aU aF pos ((k, v) :: ps) rm ((dd ++ name) :: v :: ts)
  /-- `--name` for a flag or an option with an implicit value -/
  | longImpl (name : List Nat) (k : Nat) {ps rm ts} (hne : name ≠ []) (hname : ∀ x ∈ name, x ≠ 61) (hneg : [110, 111, 45].isPrefixOf name = false)
      (hget : getOption c aU name .nameOrPrefix = .ok (some k)) (himp : (optOf c k).implicit = true)
      (t : Sp c aU aF pos ps rm ts) : Sp c aU aF pos ((k, []) :: ps) rm ((dd ++ name) :: ts)
  /-- `-avalue` -/
  | shortAtt (a : Nat) (v : List Nat) (k : Nat) {ps rm ts} (ha : a ≠ 45) (hv : v ≠ [])
      (hget : getOption c aU [a] .alias = .ok (some k)) (himp : (optOf c k).implicit = false)
      (t : Sp c aU aF pos ps rm ts) : Sp c aU aF pos ((k, v) :: ps) rm ((45 :: a :: v) :: ts)
  /-- `-a value` -/
  | shortSep (a : Nat) (v : List Nat) (k : Nat) {ps rm ts} (ha : a ≠ 45)
      (hget : getOption c aU [a] .alias = .ok (some k)) (himp : (optOf c k).implicit = false)
      (t : Sp c aU aF pos ps rm ts) : Sp c aU aF pos ((k, v) :: ps) rm ([45, a] :: v :: ts)
  /-- grouped flags `-abc` -/
  | group (fl : List (Nat × Nat)) {ps rm ts} (hne : fl ≠ []) (h0 : ∀ x ∈ fl, x.1 ≠ 45 ∨ True) (hfirst : (fl.map (·.1)).head? ≠ some 45)
      (hall : ∀ x ∈ fl, getOption c aU [x.1] .alias = .ok (some x.2) ∧ (optOf c x.2).implicit = true ∧ (optOf c x.2).flag = true)
      (t : Sp c aU aF pos ps rm ts) : Sp c aU aF pos (fl.map (fun x => (x.2, [])) ++ ps) rm ((45 :: fl.map (·.1)) :: ts)
  /-- `--no-name` for a negatable option -/
  | longNeg (name : List Nat) (k : Nat) {ps rm ts} (hname : ∀ x ∈ name, x ≠ 61)
      (hno : getOption c aU (noP ++ name) .nameOrPrefix = .ok none ∨ ∃ key, getOption c aU (noP ++ name) .nameOrPrefix = .error (.unknown key))
      (hget : getOption c aU name .nameOrPrefix = .ok (some k)) (hneg : (optOf c k).negatable = true)
      (t : Sp c aU aF pos ps rm ts) : Sp c aU aF pos ((k, [110, 111]) :: ps) rm ((dd ++ (noP ++ name)) :: ts)
  /-- an unknown long option (with or without `=value`) is left in place (when the caller allows unknown options) -/
  | unknownLong (r : List Nat) {ps rm ts} (hne : r ≠ []) (hneg : noP.isPrefixOf r = false) (hget : getOption c aU (splitEq r).1 .nameOrPrefix = .ok none)
      (t : Sp c aU aF pos ps rm ts) : Sp c aU aF pos ps ((dd ++ r) :: rm) ((dd ++ r) :: ts)
  /-- grouped flags ending in an option with its value attached: `-abcVALUE` -/
  | groupVal (fl : List (Nat × Nat)) (a : Nat) (v : List Nat) (k : Nat) {ps rm ts} (hne : fl ≠ []) (hfirst : (fl.map (·.1)).head? ≠ some 45)
      (hall : ∀ x ∈ fl, getOption c aU [x.1] .alias = .ok (some x.2) ∧ (optOf c x.2).implicit = true ∧ (optOf c x.2).flag = true)
      (hv : v ≠ []) (hget : getOption c aU [a] .alias = .ok (some k)) (himp : (optOf c k).implicit = false)
      (t : Sp c aU aF pos ps rm ts) : Sp c aU aF pos (fl.map (fun x => (x.2, [])) ++ (k, v) :: ps) rm ((45 :: (fl.map (·.1) ++ a :: v)) :: ts)
  /-- grouped flags ending in an option whose value is the next token: `-abc VALUE` -/
  | groupSep (fl : List (Nat × Nat)) (a : Nat) (v : List Nat) (k : Nat) {ps rm ts} (hne : fl ≠ []) (hfirst : (fl.map (·.1)).head? ≠ some 45)
      (hall : ∀ x ∈ fl, getOption c aU [x.1] .alias = .ok (some x.2) ∧ (optOf c x.2).implicit = true ∧ (optOf c x.2).flag = true)
      (hget : getOption c aU [a] .alias = .ok (some k)) (himp : (optOf c k).implicit = false)
      (t : Sp c aU aF pos ps rm ts) : Sp c aU aF pos (fl.map (fun x => (x.2, [])) ++ (k, v) :: ps) rm ((45 :: (fl.map (·.1) ++ [a])) :: v :: ts)
  | positional (tok : List Nat) (k : Nat) {ps rm ts} (hd : List.isPrefixOf [45, 45] tok = false) (hs : (tok.head? == some 45 && decide (tok.length > 1)) = false)
      (hget : getOption c aU (pos.getD [80, 111, 115, 105, 116, 105, 111, 110, 97, 108, 32, 79, 112, 116, 105, 111, 110]) .nameOrPrefix = .ok (some k))
      (t : Sp c aU aF pos ps rm ts) : Sp c aU aF pos ((k, tok) :: ps) rm (tok :: ts)
  /-- an unknown short option is left in place (when the caller allows unknown options) -/
  | unknownShort (a : Nat) (r : List Nat) {ps rm ts} (ha : a ≠ 45) (hget : getOption c aU [a] .alias = .ok none)
      (t : Sp c aU aF pos ps rm ts) : Sp c aU aF pos ps ((45 :: a :: r) :: rm) ((45 :: a :: r) :: ts)
  /-- `--`: everything behind it is left, in order -/
  | terminator (tail : List (List Nat)) : Sp c aU aF pos [] tail (dd :: tail)

theorem handleShort_group_then (c : Context) (aU : Bool) (fl : List (Nat × Nat)) (rest : List Nat) (p : PState) (f : Nat)
    (hall : ∀ x ∈ fl, getOption c aU [x.1] .alias = .ok (some x.2) ∧ (optOf c x.2).implicit = true ∧ (optOf c x.2).flag = true) :
    handleShort c aU (f + fl.length) (fl.map (·.1) ++ rest) p = handleShort c aU f rest { p with values := p.values ++ fl.map (fun x => (x.2, [])) } := by
  induction fl generalizing p with
  | nil => simp
  | cons x r ih =>
    obtain ⟨h1, h2, h3⟩ := hall x (.head _)
    rw [List.map_cons, List.cons_append, List.length_cons, ← Nat.add_assoc, C13_flag_group c aU x.1 _ x.2 p _ h1 h2 h3,
      ih (p.addValue x.2 []) fun y hy => hall y (.tail _ hy)]
    simp [PState.addValue, List.append_assoc]

theorem handleShort_group (c : Context) (aU : Bool) (fl : List (Nat × Nat)) (p : PState) (f : Nat) (hf : fl.length < f)
    (hall : ∀ x ∈ fl, getOption c aU [x.1] .alias = .ok (some x.2) ∧ (optOf c x.2).implicit = true ∧ (optOf c x.2).flag = true) :
    handleShort c aU f (fl.map (·.1)) p = .ok (true, { p with values := p.values ++ fl.map (fun x => (x.2, [])) }) := by
  obtain ⟨g, rfl⟩ : ∃ g, f = (g + 1) + fl.length := ⟨f - fl.length - 1, by omega⟩
  have := handleShort_group_then c aU fl [] p (g + 1) hall
  rwa [List.append_nil] at this

theorem group_token {fl : List (Nat × Nat)} (more : List Nat) (hne : fl ≠ []) (hfirst : (fl.map (·.1)).head? ≠ some 45) :
    fl.map (·.1) ++ more ≠ [] ∧ (fl.map (·.1) ++ more).head? ≠ some 45 := by
  cases fl with
  | nil => exact absurd rfl hne
  | cons x r => exact ⟨List.cons_ne_nil _ _, hfirst⟩

section
variable {c : Context} {aU aF : Bool} {pos : Option (List Nat)} {ts ts' : List (List Nat)} {dps ps all : List (Nat × List Nat)} {rm : List (List Nat)}

theorem argv_pairs (hlen : ts'.length < ts.length) (hall : dps ++ ps = all)
    (hstep : ∀ f vs rm0, parseLoop c aU aF pos (f + 1) { toks := ts, values := vs, remaining := rm0 } =
      parseLoop c aU aF pos f { toks := ts', values := vs ++ dps, remaining := rm0 })
    (ih : ∀ f vs rm0, ts'.length < f → parseLoop c aU aF pos f { toks := ts', values := vs, remaining := rm0 } =
      .ok { toks := [], values := vs ++ ps, remaining := rm0 ++ rm }) :
    ∀ f vs rm0, ts.length < f → parseLoop c aU aF pos f { toks := ts, values := vs, remaining := rm0 } =
      .ok { toks := [], values := vs ++ all, remaining := rm0 ++ rm } := by
  intro f vs rm0 hf
  obtain ⟨f, rfl⟩ : ∃ g, f = g + 1 := ⟨f - 1, by omega⟩
  rw [hstep, ih f _ _ (by omega), List.append_assoc, hall]

theorem argv_left {tok : List Nat} (hlen : ts'.length < ts.length)
    (hstep : ∀ f vs rm0, parseLoop c aU aF pos (f + 1) { toks := ts, values := vs, remaining := rm0 } =
      parseLoop c aU aF pos f { toks := ts', values := vs, remaining := rm0 ++ [tok] })
    (ih : ∀ f vs rm0, ts'.length < f → parseLoop c aU aF pos f { toks := ts', values := vs, remaining := rm0 } =
      .ok { toks := [], values := vs ++ ps, remaining := rm0 ++ rm }) :
    ∀ f vs rm0, ts.length < f → parseLoop c aU aF pos f { toks := ts, values := vs, remaining := rm0 } =
      .ok { toks := [], values := vs ++ ps, remaining := rm0 ++ tok :: rm } := by
  intro f vs rm0 hf
  obtain ⟨f, rfl⟩ : ∃ g, f = g + 1 := ⟨f - 1, by omega⟩
  rw [hstep, ih f _ _ (by omega), List.append_assoc, List.singleton_append]
end

theorem C13_argv_loop (c : Context) (aU aF : Bool) (pos : Option (List Nat)) {ps : List (Nat × List Nat)} {rm ts : List (List Nat)}
    (h : Sp c aU aF pos ps rm ts) : ∀ (f : Nat) (vs : List (Nat × List Nat)) (rm0 : List (List Nat)), ts.length < f →
      parseLoop c aU aF pos f { toks := ts, values := vs, remaining := rm0 } = .ok { toks := [], values := vs ++ ps, remaining := rm0 ++ rm } := by
  -- each spelling: the handler `dispatch` picks for the first token, and what that handler does with it
  induction h with
  | nil =>
    intro f vs rm0 _
    rw [List.append_nil, List.append_nil]
    cases f <;> rfl
  | longEq name v k hne hname hv hget hflag t ih =>
    exact argv_pairs (Nat.lt_succ_self _) rfl (fun f vs rm0 =>
      parseLoop_long (by simp) (C13_long_eq c aU aF name v k _ hname hv (Or.inr trivial) hget hflag) f) ih
  | longSep name v k hne hname hneg hget himp t ih =>
    exact argv_pairs (Nat.lt_succ_of_lt (Nat.lt_succ_self _)) rfl (fun f vs rm0 =>
      parseLoop_long hne (C13_long_sep c aU aF name v k _ _ hname hneg hget himp rfl) f) ih
  | longImpl name k hne hname hneg hget himp t ih =>
    exact argv_pairs (Nat.lt_succ_self _) rfl (fun f vs rm0 =>
      parseLoop_long hne (C13_long_implicit c aU aF name k _ hname hneg hget himp) f) ih
  | shortAtt a v k ha hv hget himp t ih =>
    exact argv_pairs (Nat.lt_succ_self _) rfl (fun f vs rm0 =>
      parseLoop_short (List.cons_ne_nil _ _) (by simpa using ha) rfl (C13_short_attached c aU a v k _ _ hv hget himp) f) ih
  | shortSep a v k ha hget himp t ih =>
    exact argv_pairs (Nat.lt_succ_of_lt (Nat.lt_succ_self _)) rfl (fun f vs rm0 =>
      parseLoop_short (List.cons_ne_nil _ _) (by simpa using ha) rfl (C13_short_sep c aU a v k _ _ _ hget himp rfl) f) ih
  | group fl hne h0 hfirst hall t ih =>
    have ⟨h1, h2⟩ := group_token [] hne hfirst
    rw [List.append_nil] at h1 h2
    exact argv_pairs (Nat.lt_succ_self _) rfl (fun f vs rm0 =>
      parseLoop_short h1 h2 rfl (handleShort_group c aU fl _ _ (by simp) hall) f) ih
  | longNeg name k hname hno hget hneg t ih =>
    exact argv_pairs (Nat.lt_succ_self _) rfl (fun f vs rm0 =>
      parseLoop_long (by simp) (C13_long_neg c aU aF name k _ hname hno hget hneg) f) ih
  | unknownLong r hne hneg hget t ih =>
    exact argv_left (Nat.lt_succ_self _) (fun f vs rm0 => parseLoop_long hne (C13_long_unknown c aU aF r _ hneg hget) f) ih
  | groupVal fl a v k hne hfirst hall hv hget himp t ih =>
    have ⟨h1, h2⟩ := group_token (a :: v) hne hfirst
    exact argv_pairs (Nat.lt_succ_self _) (List.append_assoc ..) (fun f vs rm0 =>
      (parseLoop_short (F := (v.length + 2) + 1 + fl.length) h1 h2 (by simp; omega)
        ((handleShort_group_then c aU fl (a :: v) _ _ hall).trans (C13_short_attached c aU a v k _ _ hv hget himp)) f).trans
        (by rw [← List.append_assoc]; rfl)) ih
  | groupSep fl a v k hne hfirst hall hget himp t ih =>
    have ⟨h1, h2⟩ := group_token [a] hne hfirst
    exact argv_pairs (Nat.lt_succ_of_lt (Nat.lt_succ_self _)) (List.append_assoc ..) (fun f vs rm0 =>
      (parseLoop_short (F := 2 + 1 + fl.length) h1 h2 (by simp; omega)
        ((handleShort_group_then c aU fl [a] _ _ hall).trans (C13_short_sep c aU a v k _ _ 2 hget himp rfl)) f).trans
        (by rw [← List.append_assoc]; rfl)) ih
  | positional tok k hd hs hget t ih =>
    exact argv_pairs (Nat.lt_succ_self _) rfl (fun f vs rm0 => parseLoop_pos hd hs (handlePos_known c aU pos tok k _ hget) f) ih
  | unknownShort a r ha hget t ih =>
    exact argv_left (Nat.lt_succ_self _) (fun f vs rm0 =>
      parseLoop_short (List.cons_ne_nil _ _) (by simpa using ha) rfl (handleShort_unknown c aU a r _ _ hget) f) ih
  | terminator tail =>
    intro f vs rm0 hf
    obtain ⟨f, rfl⟩ : ∃ g, f = g + 1 := ⟨f - 1, by omega⟩
    rw [C13_terminator c aU aF pos f _ tail rfl, List.append_nil]

/-- **C13 (whole argument lists)**: every spelling of an intended list parses to exactly that list -/
theorem C13_argv (c : Context) (aU aF : Bool) (pos : Option (List Nat)) (ps : List (Nat × List Nat)) (rm ts : List (List Nat))
    (h : Sp c aU aF pos ps rm ts) : parseArgv c aU aF pos ts = .ok { toks := [], values := ps, remaining := rm } :=
  C13_argv_loop c aU aF pos h _ [] [] (Nat.lt_succ_self _)

end PotasscoVerif.C13

namespace PotasscoVerif.C13
open PotasscoVerif.Options PotasscoVerif.OptIndex
/-! non-vacuity: a context with a value option `num,n` and a flag `verb,v`; the list `--nu=3 -n 4 -v -- x` is a spelling of
    [(num,3), (num,4), (verb,"")] with `x` left over -/
def exCtx : Context :=
  (((({} : Context).add { name := [110, 117, 109], alias := 110 }).bind (fun c => c.add { name := [118, 101, 114, 98], alias := 118, implicit := true, flag := true }))).getD {}

example : Sp exCtx false false none [(0, [51]), (0, [52]), (1, [])] [[120]] [dd ++ ([110, 117] ++ 61 :: [51]), [45, 110], [52], 45 :: [(118, 1)].map (·.1), dd, [120]] := by
  refine .longEq [110, 117] [51] 0 (by simp) (by decide) (by simp) (by rfl) (Or.inl (by rfl)) ?_
  refine .shortSep 110 [52] 0 (by decide) (by rfl) (by rfl) ?_
  refine .group [(118, 1)] (by simp) (by simp) (by decide) (by intro x hx; simp at hx; subst hx; exact ⟨rfl, rfl, rfl⟩) ?_
  exact .terminator [[120]]
/-! the further spellings, with `verb` negatable and unknown options allowed: `--no-verb -vn5 -vn 6 --zzz=1` is a spelling of
    [(verb,"no"), (verb,""), (num,5), (verb,""), (num,6)] with `--zzz=1` left over -/
def exCtx2 : Context :=
  (((({} : Context).add { name := [110, 117, 109], alias := 110 }).bind (fun c => c.add { name := [118, 101, 114, 98], alias := 118, implicit := true, flag := true, negatable := true }))).getD {}

example : Sp exCtx2 true false none [(1, [110, 111]), (1, []), (0, [53]), (1, []), (0, [54])] [dd ++ [122, 122, 122, 61, 49]]
    [dd ++ (noP ++ [118, 101, 114, 98]), 45 :: ([(118, 1)].map (·.1) ++ 110 :: [53]), 45 :: ([(118, 1)].map (·.1) ++ [110]), [54], dd ++ [122, 122, 122, 61, 49]] := by
  refine .longNeg [118, 101, 114, 98] 1 (by decide) (Or.inl (by rfl)) (by rfl) (by rfl) ?_
  refine .groupVal [(118, 1)] 110 [53] 0 (by simp) (by decide) (by intro x hx; simp at hx; subst hx; exact ⟨rfl, rfl, rfl⟩) (by simp) (by rfl) (by rfl) ?_
  refine .groupSep [(118, 1)] 110 [54] 0 (by simp) (by decide) (by intro x hx; simp at hx; subst hx; exact ⟨rfl, rfl, rfl⟩) (by rfl) (by rfl) ?_
  exact .unknownLong [122, 122, 122, 61, 49] (by simp) (by rfl) (by rfl) .nil
end PotasscoVerif.C13
