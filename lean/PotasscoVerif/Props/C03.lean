/-
  C03 — aspif reader accepts exactly well-formed aspif and never alters a number.

  The property: the reader accepts exactly the texts of a declarative grammar of aspif 1.0 (with the reader's documented
  leniencies) and delivers the directives they denote; numbers are never altered; a rejection is one error with
  1 ≤ line ≤ lines t.  This file has the number part (magnitudes beyond 32 and 64 bits included) and `C03_error_once`; completeness
  for the strict grammar `Prog true` and soundness for the lenient one `Prog false` are in Props/C03c.lean, the line bound in
  Props/C03b.lean.
-/
import PotasscoVerif.Lemmas.Decimal
import PotasscoVerif.Model.AspifIn
import PotasscoVerif.Model.AspifOut
namespace PotasscoVerif.C03
open PotasscoVerif.CharStream PotasscoVerif.Decimal PotasscoVerif.AspifIn
open PotasscoVerif.BufferedStream (isWs isDigit I64MAX)

/-- the number a token denotes (unbounded). -/
def denoted (sg : Sign) (ds : List Nat) : Int := sg.apply (val ds 0)

theorem intIn_token (lo hi : Int) (a : AS) (sg : Sign) (ds ws k : List Nat)
    (hr : a.rest = ws ++ (sg.text ++ (ds ++ k))) (hws : ∀ c ∈ ws, isWs c = true)
    (hds : ∀ c ∈ ds, isDigit c = true) (hne : ds ≠ []) (hk : NDS k)
    (hlo : -(I64MAX : Int) < lo) (hhi : hi < I64MAX) :
    ∃ a', a'.rest = k ∧
      intIn lo hi a = if lo ≤ denoted sg ds ∧ denoted sg ds ≤ hi then .ok (denoted sg ds, a') else .error a'.line := by
  obtain ⟨a', h1, h2⟩ := matchInt_token a sg ds ws k hr hws hds hne hk
  refine ⟨a', h2, ?_⟩
  unfold intIn denoted
  rw [h1]
  by_cases hsat : val ds 0 ≤ I64MAX
  · rw [Nat.min_eq_left hsat]
  · -- from the cap on, with either sign, a value is outside every field
    have hout : ∀ n : Nat, I64MAX ≤ n → ¬(lo ≤ sg.apply n ∧ sg.apply n ≤ hi) := by
      intro n hn; cases sg <;> simp only [Sign.apply] <;> omega
    rw [Nat.min_eq_right (Nat.le_of_not_le hsat)]
    exact (if_neg (hout _ (Nat.le_refl _))).trans (if_neg (hout _ (Nat.le_of_not_le hsat))).symm

/-- **A number is never altered.** For every field with bounds inside the 64-bit range (all fields of the reader: at most
    ±2^32, `C03_field_bounds`), every layout of blanks before the token, every sign and every digit string of any length:
    if the field matcher accepts, the value delivered is exactly the denoted number. -/
theorem C03_number_exact (lo hi : Int) (a : AS) (sg : Sign) (ds ws k : List Nat)
    (hr : a.rest = ws ++ (sg.text ++ (ds ++ k))) (hws : ∀ c ∈ ws, isWs c = true)
    (hds : ∀ c ∈ ds, isDigit c = true) (hne : ds ≠ []) (hk : NDS k)
    (hlo : -(I64MAX : Int) < lo) (hhi : hi < I64MAX) (v : Int) (a' : AS)
    (hok : intIn lo hi a = .ok (v, a')) : v = denoted sg ds ∧ a'.rest = k := by
  obtain ⟨a1, hk', e⟩ := intIn_token lo hi a sg ds ws k hr hws hds hne hk hlo hhi
  rw [e] at hok
  split at hok
  · cases hok; exact ⟨rfl, hk'⟩
  · cases hok

/-- **A number that does not fit its field is rejected**: never wrapped, truncated or otherwise turned into an accepted value. -/
theorem C03_reject_out_of_range (lo hi : Int) (a : AS) (sg : Sign) (ds ws k : List Nat)
    (hr : a.rest = ws ++ (sg.text ++ (ds ++ k))) (hws : ∀ c ∈ ws, isWs c = true)
    (hds : ∀ c ∈ ds, isDigit c = true) (hne : ds ≠ []) (hk : NDS k)
    (hlo : -(I64MAX : Int) < lo) (hhi : hi < I64MAX)
    (hout : ¬ (lo ≤ denoted sg ds ∧ denoted sg ds ≤ hi)) : ∃ l, intIn lo hi a = .error l := by
  obtain ⟨a', _, e⟩ := intIn_token lo hi a sg ds ws k hr hws hds hne hk hlo hhi
  rw [if_neg hout] at e
  exact ⟨_, e⟩

/-- every field matcher of the reader is `intIn`, or (`lit`) the same range test with `v ≠ 0` added; these are its bounds -/
theorem C03_field_bounds :
    (-(I64MAX : Int) < 0 ∧ ((U32MAX : Nat) : Int) < I64MAX) ∧ (-(I64MAX : Int) < I32MIN ∧ I32MAX < I64MAX) ∧
    (-(I64MAX : Int) < Gen.atomMin ∧ ((Gen.atomMax : Nat) : Int) < I64MAX) ∧
    (-(I64MAX : Int) < -((Gen.atomMax : Nat) : Int)) := by decide

/-- the result carries at most one error value, by construction of `Result` (the C++ side of "exactly once" is the handler-call
    count compared by the correspondence run) -/
theorem C03_error_once (t : List Nat) : (read t).err = none ∨ ∃ l, (read t).err = some l := by
  cases (read t).err with
  | none => exact Or.inl rfl
  | some l => exact Or.inr ⟨l, rfl⟩

/-! non-vacuity: oversized numbers in a real text -/
example : (read (AspifOut.str "asp 1 0 0\n1 0 1 18446744073709551617 0 0\n0\n")).err = some 2 := by
  rw [AspifOut.str_ofList]; decide +kernel
example : (read (AspifOut.str "asp 1 0 0\n1 0 1 00000000000000000000001 0 0\n0\n")) =
    { calls := [.initProgram false, .beginStep, .rule 0 [1] [], .endStep], err := none } := by
  rw [AspifOut.str_ofList]; decide +kernel
example : denoted .minus [49, 50] = -12 := by decide

end PotasscoVerif.C03
