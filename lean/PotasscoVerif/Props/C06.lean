/-
  C06 — ground-text rendering is faithful and complete.
  Theorems about Model/TextOut.lean (tied to src/aspif_text.cpp by the `tw` correspondence).
-/
import PotasscoVerif.Model.TextOut
namespace PotasscoVerif.TextOut

/-- `s` of a string literal, which is `String.ofList` of its characters by definition.  `rw [s_ofList]` before evaluating
    (`rw` unifies a literal with `String.ofList _`, `simp` does not) keeps `String.toList`, a UTF-8 decoder over a byte
    array that is quadratic when evaluated, out of the evaluation. -/
theorem s_ofList (l : List Char) : s (String.ofList l) = l.map Char.toNat := by simp [s]
theorem s_append (a b : String) : s (a ++ b) = s a ++ s b := by simp [s]

end PotasscoVerif.TextOut

namespace PotasscoVerif.C06
open PotasscoVerif PotasscoVerif.TextOut
open PotasscoVerif.AspifOut (printInt printNat)

/-- **C06 (sum ≍ count)**: for every bound (positive, zero, negative, unreachable), every common weight `w > 0` and every
    number `n ≥ 0` of true literals, the sum `w·n` reaches the bound iff `n` reaches `(bound + w − 1) / w` computed with
    C++ (truncating) division — the count the writer emits has exactly the satisfaction condition of the sum. -/
theorem C06_count_equiv (bound w n : Int) (hw : 0 < w) (hn : 0 ≤ n) : (bound ≤ w * n ↔ Int.tdiv (bound + w - 1) w ≤ n) := by
  by_cases hb : 0 < bound
  · rw [Int.tdiv_eq_ediv_of_nonneg (by omega), Int.ediv_le_iff_le_mul hw, Int.mul_comm n w]
    omega
  · -- the quotient is at most that of `w - 1`, which is 0: both sides hold
    have h0 : 0 ≤ w * n := Int.mul_nonneg (by omega) hn
    have h1 : (w - 1).tdiv w = 0 := Int.tdiv_eq_zero_of_lt (by omega) (by omega)
    have := Int.tdiv_le_tdiv hw (show bound + w - 1 ≤ w - 1 by omega)
    omega

theorem foldl_min_max (r : List (Int × Int)) (lo hi : Int) :
    (r.foldl (fun m q => min m q.2) lo ≤ lo ∧ hi ≤ r.foldl (fun m q => max m q.2) hi) ∧
    ∀ p ∈ r, r.foldl (fun m q => min m q.2) lo ≤ p.2 ∧ p.2 ≤ r.foldl (fun m q => max m q.2) hi := by
  induction r generalizing lo hi with
  | nil => exact ⟨⟨Int.le_refl _, Int.le_refl _⟩, fun _ hp => nomatch hp⟩
  | cons a r ih =>
    obtain ⟨⟨h1, h2⟩, h3⟩ := ih (min lo a.2) (max hi a.2)
    exact ⟨⟨Int.le_trans h1 (Int.min_le_left ..), Int.le_trans (Int.le_max_left ..) h2⟩,
      List.forall_mem_cons.mpr ⟨⟨Int.le_trans h1 (Int.min_le_right ..), Int.le_trans (Int.le_max_right ..) h2⟩, h3⟩⟩

/-- **C06 (when the rewriting applies)**: the writer stores a count only if ALL weights are equal to one positive value; in
    every other case (no literal, a zero weight, mixed weights, a negative weight) the sum is stored as given: there is no
    division by zero and nothing is rewritten that should not be. -/
theorem C06_count_only_if_uniform (ds : List Int) (ht : Nat) (head : List Nat) (bound : Int) (ws : List (Int × Int)) :
    (minW ws = maxW ws ∧ 0 < minW ws →
      (∀ p ∈ ws, p.2 = minW ws) ∧
      pushSum ds ht head bound ws = pushList (pushList (ds ++ [DRule, (ht : Int)]) (head.map Int.ofNat) ++ [2, Int.tdiv (bound + minW ws - 1) (minW ws)]) (ws.map (·.1))) ∧
    (¬ (minW ws = maxW ws ∧ 0 < minW ws) →
      pushSum ds ht head bound ws = pushWLits (pushList (ds ++ [DRule, (ht : Int)]) (head.map Int.ofNat) ++ [1, bound]) ws) := by
  have hif : ((minW ws == maxW ws) && decide (0 < minW ws)) = true ↔ (minW ws = maxW ws ∧ 0 < minW ws) := by simp
  refine ⟨fun h => ⟨?_, by simp only [pushSum, hif.2 h, ↓reduceIte]⟩,
    fun h => by simp only [pushSum, mt hif.1 h, Bool.false_eq_true, ↓reduceIte]⟩
  cases ws with
  | nil => exact fun _ hp => nomatch hp
  | cons a r =>
    obtain ⟨⟨h1, h2⟩, h3⟩ := foldl_min_max r a.2 a.2
    have heq : r.foldl (fun m q => min m q.2) a.2 = r.foldl (fun m q => max m q.2) a.2 := h.1
    refine List.forall_mem_cons.mpr ⟨?_, fun p hp => ?_⟩
    · show a.2 = r.foldl (fun m q => min m q.2) a.2
      omega
    · have := h3 p hp
      show p.2 = r.foldl (fun m q => min m q.2) a.2
      omega

/-- **C06 (names)**: the name printed for an atom is the LAST one given to it; giving a name to one atom does not change
    another; an atom without a name prints as `x_<n>`. -/
theorem C06_name_lookup (t : TO) (id : Nat) (str : List Nat) :
    (t.addAtom id str).atomName id = str ∧
    (∀ j, j ≠ id → (∀ p ∈ t.names, p.2 < t.strings.length) → (t.addAtom id str).atomName j = t.atomName j) ∧
    ((t.names.find? (fun p => p.1 == id)) = none → t.atomName id = s "x_" ++ printNat id) := by
  refine ⟨?_, ?_, ?_⟩
  · simp [TO.addAtom, TO.atomName, TO.nameOf]
  · intro j hj hwf
    have hne : (id == j) = false := by simpa using fun e => hj e.symm
    simp only [TO.addAtom, TO.atomName, TO.nameOf, List.find?_cons, hne]
    cases hf : t.names.find? (fun p => p.1 == j) with
    | none => rfl
    | some p =>
      have hm := List.mem_of_find?_eq_some hf
      have := hwf p hm
      simp [List.getElem?_append_left this]
  · intro h
    simp [TO.atomName, TO.nameOf, h]

def isTheoryCall : Call → Bool
  | .theoryNum .. | .theorySym .. | .theoryCompound .. | .theoryElement .. | .theoryAtom .. => true
  | _ => false

theorem visitTheories_none (t : TO) (ha : t.theory.atoms.drop t.theory.fAtom = []) : t.visitTheories = t := by
  rw [TO.visitTheories, ha, List.foldl_nil]

theorem apply_endStep (t : TO) (hf : t.fail = false) (ha : t.theory.atoms.drop t.theory.fAtom = []) :
    t.apply .endStep = { t with out := t.out ++ t.writeLoop (t.dirs.length + 2) (t.dirs ++ [0]) [], dirs := [],
                                theory := if t.step < 0 then {} else t.theory } := by
  unfold TO.apply
  simp only [visitTheories_none t ha, hf, Bool.false_eq_true, ↓reduceIte]

def Quiet (t : TO) : Prop := t.fail = false ∧ t.theory.atoms.drop t.theory.fAtom = []

theorem Quiet.ite {t u : TO} {c : Prop} [Decidable c] (ht : Quiet t) (hu : Quiet u) : Quiet (if c then t else u) := by
  split <;> assumption

theorem apply_noTheory (t : TO) (c : Call) (hc : isTheoryCall c = false) (h : Quiet t) : Quiet (t.apply c) := by
  cases c with
  | endStep => rw [apply_endStep t h.1 h.2]; refine ⟨h.1, ?_⟩; dsimp only; split; rfl; exact h.2
  | beginStep => unfold TO.apply; rw [if_neg (by simp [h.1])]; exact .ite (.ite ⟨h.1, List.drop_length⟩ h) h
  | output str cond => unfold TO.apply; rw [if_neg (by simp [h.1])]; exact .ite h h
  | _ =>
    -- with `fail` literally `false`, `apply` computes: the theory calls are excluded by `hc`, the others touch neither field
    obtain ⟨hf, ha⟩ := h
    cases t; subst hf
    cases hc <;> exact ⟨rfl, ha⟩

/-- **C06 (totality)**: rendering a program without theory directives never fails — whatever the heads, bodies, bounds,
    weights (also none, zero, huge), lists and steps are. (With theory directives the writer fails exactly on a redefined
    term/element id, an unknown term or element id, a term table with a cycle, or a theory atom whose atom already has a name: see the
    model.) -/
theorem C06_total (cs : List Call) (h : ∀ c ∈ cs, isTheoryCall c = false) : (write cs).fail = false := by
  suffices ∀ t, Quiet t → Quiet (cs.foldl TO.apply t) from (this {} ⟨rfl, rfl⟩).1
  induction cs with
  | nil => exact fun t ht => ht
  | cons c r ih => exact fun t ht => ih (fun c' h' => h c' (.tail _ h')) _ (apply_noTheory t c (h c (.head _)) ht)

theorem sepJoin_cons (sep x : List Nat) (r : List (List Nat)) (h : r ≠ []) : sepJoin sep (x :: r) = x ++ sep ++ sepJoin sep r := by
  cases r with
  | nil => exact absurd rfl h
  | cons y r' => rfl

def opened (first next : List Nat) (xs : List (List Nat)) : List Nat := if xs.isEmpty then [] else first ++ sepJoin next xs

theorem joinLits_eq (t : TO) (next : List Nat) (items : List Int) (first acc : List Nat) :
    t.joinLits next items first acc = acc ++ opened first next (items.map t.litName) := by
  induction items generalizing first acc with
  | nil => simp [TO.joinLits, opened]
  | cons l r ih =>
    simp only [TO.joinLits, ih, List.map_cons, opened]
    cases r with
    | nil => simp [sepJoin]
    | cons l2 r' => simp [sepJoin_cons]

def wlitTxt (t : TO) (p : Int × Int) : List Nat := t.litName p.1 ++ [61] ++ printInt p.2

def ints (l : List Nat) : List Int := l.map Int.ofNat
def pairs (ws : List (Int × Int)) : List Int := ws.flatMap (fun p => [p.1, p.2])

theorem pairs_eq (ws : List (Int × Int)) : ws.flatMap (fun p => [p.1, p.2]) = pairs ws := rfl
theorem ints_length (l : List Nat) : (ints l).length = l.length := List.length_map _
theorem pairs_length (ws : List (Int × Int)) : (pairs ws).length = ws.length * 2 := by
  induction ws with
  | nil => rfl
  | cons p r ih => rw [List.length_cons, Nat.succ_mul, ← ih]; rfl

theorem joinWLits_eq (t : TO) (next : List Nat) (ws : List (Int × Int)) (first acc : List Nat) :
    t.joinWLits next (pairs ws) first acc = acc ++ opened first next (ws.map (wlitTxt t)) := by
  induction ws generalizing first acc with
  | nil => simp [pairs, TO.joinWLits, opened]
  | cons p r ih =>
    simp only [show pairs (p :: r) = p.1 :: p.2 :: pairs r from rfl, TO.joinWLits, ih, List.map_cons, opened, wlitTxt]
    cases r with
    | nil => simp [sepJoin]
    | cons q r' => simp [sepJoin_cons]

-- The stored length is an `n` of its own (`h`): for an atom list the items are `ints atoms`, their stored number `atoms.length`.
@[simp] theorem pop_cons (x : Int) (r : List Int) : pop (x :: r) = (x, r) := rfl

theorem popN_append (items k : List Int) {n : Nat} (h : items.length = n) : popN (items ++ k) n = (items, k) := by
  subst h; simp [popN]

theorem litLoop_plain (t : TO) (items k : List Int) {n : Nat} (h : items.length = n) (first next : List Nat) :
    t.litLoop (items ++ k) n first next false = (opened first next (items.map t.litName), k) := by
  subst h; simp [TO.litLoop, joinLits_eq]

theorem litLoop_weighted (t : TO) (ws : List (Int × Int)) (k : List Int) {n : Nat} (h : ws.length = n) (first next : List Nat) :
    t.litLoop (pairs ws ++ k) n first next true = (opened first next (ws.map (wlitTxt t)), k) := by
  subst h; simp [TO.litLoop, ← pairs_length, joinWLits_eq]

/-- the directives the buffer can hold (after the sum→count rewriting) -/
inductive Dir where
  | rule (ht : Nat) (head : List Nat) (body : List Int)
  | count (ht : Nat) (head : List Nat) (bound : Int) (lits : List Int)
  | sum (ht : Nat) (head : List Nat) (bound : Int) (ws : List (Int × Int))
  | minimize (prio : Int) (ws : List (Int × Int))
  | project (atoms : List Nat)
  | shown (idx : Nat) (cond : List Int)
  | external (a v : Nat)
  | assume (lits : List Int)
  | heuristic (a ty : Nat) (bias : Int) (prio : Nat) (cond : List Int)
  | edge (s t : Int) (cond : List Int)
deriving Repr, DecidableEq

/-- the words a directive occupies: type, then its fields (what `push…` appends) -/
def Dir.enc : Dir → List Int
  | .rule ht head body => DRule :: (ht : Int) :: (head.length : Int) :: (ints head ++ (0 :: (body.length : Int) :: body))
  | .count ht head b lits => DRule :: (ht : Int) :: (head.length : Int) :: (ints head ++ (2 :: b :: (lits.length : Int) :: lits))
  | .sum ht head b ws => DRule :: (ht : Int) :: (head.length : Int) :: (ints head ++ (1 :: b :: (ws.length : Int) :: pairs ws))
  | .minimize prio ws => DMinimize :: (ws.length : Int) :: (pairs ws ++ [prio])
  | .project atoms => DProject :: (atoms.length : Int) :: ints atoms
  | .shown idx cond => DOutput :: (idx : Int) :: (cond.length : Int) :: cond
  | .external a v => [DExternal, (a : Int), (v : Int)]
  | .assume lits => DAssume :: (lits.length : Int) :: lits
  | .heuristic a ty bias prio cond => DHeuristic :: (a : Int) :: (cond.length : Int) :: (cond ++ [bias, (prio : Int), (ty : Int)])
  | .edge a b cond => DEdge :: a :: b :: (cond.length : Int) :: cond

def headText (t : TO) (ht : Nat) (head : List Nat) : List Nat :=
  let names := (ints head).map t.litName
  if head.isEmpty then (if ht ≠ 0 then s "{}" else []) ++ s ":- "
  else if ht ≠ 0 then [123] ++ sepJoin [59] names ++ [125] else sepJoin [124] names
def neck (head : List Nat) : List Nat := if head.isEmpty then [] else s " :- "

/-- the line (without newline) the writer is meant to produce for a directive -/
def Dir.text (t : TO) : Dir → List Nat
  | .rule ht head body => headText t ht head ++ opened (neck head) (s ", ") (body.map t.litName) ++ [46]
  | .count ht head b lits => headText t ht head ++ neck head ++ printInt b ++ [123] ++ opened [] (s "; ") (lits.map t.litName) ++ [125, 46]
  | .sum ht head b ws => headText t ht head ++ neck head ++ printInt b ++ [123] ++ opened [] (s "; ") (ws.map (wlitTxt t)) ++ [125, 46]
  | .minimize prio ws => s "#minimize{" ++ opened [] (s "; ") (ws.map (wlitTxt t)) ++ s "}@" ++ printInt prio ++ [46]
  | .project atoms => s "#project{" ++ opened [] (s ", ") ((ints atoms).map t.litName) ++ s "}."
  | .shown idx cond => s "#show " ++ t.strings.getD idx [] ++ opened (s " : ") (s ", ") (cond.map t.litName) ++ [46]
  | .external a v => s "#external " ++ t.litName a ++ (if v = 0 then s ". [free]" else if v = 1 then s ". [true]" else if v = 3 then s ". [release]" else [46])
  | .assume lits => s "#assume{" ++ opened [] (s ", ") (lits.map t.litName) ++ s "}."
  | .heuristic a ty bias prio cond => s "#heuristic " ++ t.litName a ++ opened (s " : ") (s ", ") (cond.map t.litName) ++ s ". [" ++ printInt bias
      ++ (if prio ≠ 0 then [64] ++ printInt prio else []) ++ s ", " ++ heuName ty ++ [93]
  | .edge a b cond => s "#edge(" ++ printInt a ++ [44] ++ printInt b ++ [41] ++ opened (s " : ") (s ", ") (cond.map t.litName) ++ [46]

/-- what `directive` computes for the head of a rule from the words `ht`, `head.length`, in its own terms -/
theorem heads_eq (t : TO) (ht : Nat) (head : List Nat) :
    (if (head.length != 0) = true then
        (if ((ht : Int) != 0) = true then [123] else []) ++ sepJoin (if ((ht : Int) != 0) = true then [59] else [124]) (List.map (fun a => t.litName a) (ints head))
          ++ (if ((ht : Int) != 0) = true then [125] else [])
      else (if ((ht : Int) != 0) = true then [123] else []) ++ (if ((ht : Int) != 0) = true then [125] else []) ++ s ":- ") = headText t ht head := by
  unfold headText
  cases head with
  | nil => by_cases h : ht = 0 <;> simp [h, s]
  | cons a r => by_cases h : ht = 0 <;> simp [h]

theorem headText_eq (t : TO) (ht : Nat) (head : List Nat) :
    (if head.length ≠ 0 then (if (ht : Int) ≠ 0 then [123] else []) ++ sepJoin (if (ht : Int) ≠ 0 then [59] else [124]) ((ints head).map t.litName)
        ++ (if (ht : Int) ≠ 0 then [125] else [])
      else (if (ht : Int) ≠ 0 then [123] else []) ++ (if (ht : Int) ≠ 0 then [125] else []) ++ s ":- ") = headText t ht head := by
  simpa only [bne_iff_ne] using heads_eq t ht head

theorem neck_eq (head : List Nat) : (if (head.length != 0) = true then s " :- " else []) = neck head := by
  unfold neck; cases head <;> rfl

/-- **C06 (the buffer reads back)**: read with the writer's own cursor, the words of a directive followed by anything
    yield exactly the line the directive stands for, and the cursor stops exactly behind it. -/
theorem directive_enc (t : TO) (d : Dir) (k : List Int) : t.directive (d.enc.headD 0) (d.enc.tail ++ k) = (d.text t, k) := by
  cases d <;> simp only [Dir.enc, Dir.text, TO.directive, DRule, DMinimize, DProject, DOutput, DExternal, DAssume, DHeuristic, DEdge, Int.reduceBEq,
    List.headD_cons, List.tail_cons, List.cons_append, @List.append_assoc Int, List.nil_append, Bool.false_eq_true, ↓reduceIte, pop_cons, Int.toNat_natCast,
    popN_append, litLoop_plain, litLoop_weighted, ints_length, heads_eq, neck_eq]
  -- `external` and `heuristic` test the words `(v : Int)`, `(prio : Int)` where `Dir.text` tests `v`, `prio`
  all_goals simp only [beq_iff_eq, bne_iff_ne, ne_eq]; norm_cast

theorem enc_ne_nil (d : Dir) : ∃ x r, d.enc = x :: r ∧ x ≠ 0 := by
  cases d <;> exact ⟨_, _, rfl, by decide⟩

theorem writeLoop_encs (t : TO) (ds : List Dir) (f : Nat) (hf : (ds.flatMap Dir.enc).length < f) (acc : List Nat) :
    t.writeLoop f (ds.flatMap Dir.enc ++ [0]) acc = acc ++ ds.flatMap (fun d => d.text t ++ [10]) := by
  induction ds generalizing f acc with
  | nil => cases f <;> simp [TO.writeLoop] at hf ⊢
  | cons d r ih =>
    obtain ⟨x, tl, he, hx⟩ := enc_ne_nil d
    rw [List.flatMap_cons, he, List.length_append, List.length_cons] at hf
    obtain ⟨f, rfl⟩ : ∃ g, f = g + 1 := ⟨f - 1, by omega⟩
    have hd := directive_enc t d (r.flatMap Dir.enc ++ [0])
    simp only [he, List.headD_cons, List.tail_cons] at hd
    simp only [List.flatMap_cons, he, List.cons_append, List.append_assoc, TO.writeLoop, beq_eq_false_iff_ne.2 hx, Bool.false_eq_true, ↓reduceIte, hd,
      ih f (by omega)]

/-- `none`: the call appends nothing to the buffer (step markers, an output that names an atom, theory) -/
def dirOf (t : TO) : Call → Option Dir
  | .rule ht head body => some (.rule ht head body)
  | .sumRule ht head bound ws =>
    if minW ws = maxW ws ∧ 0 < minW ws then some (.count ht head (Int.tdiv (bound + minW ws - 1) (minW ws)) (ws.map (·.1)))
    else some (.sum ht head bound ws)
  | .minimize prio ws => some (.minimize prio ws)
  | .project atoms => some (.project atoms)
  | .output str cond =>
    if cond.length == 1 && 0 < cond.headD 0 && !str.isEmpty && isNameStart (str.headD 0) then none
    else some (.shown t.strings.length cond)
  | .external a v => some (.external a v)
  | .assume lits => some (.assume lits)
  | .heuristic a ty bias prio cond => some (.heuristic a ty bias prio cond)
  | .acycEdge a b cond => some (.edge a b cond)
  | _ => none

theorem apply_dirOf (t : TO) (c : Call) (d : Dir) (hf : t.fail = false) (hd : dirOf t c = some d) :
    t.apply c = { t with dirs := t.dirs ++ d.enc, strings := (t.apply c).strings } := by
  unfold TO.apply
  rw [if_neg (by simp [hf])]
  cases c with
  | sumRule ht head bound ws =>
    have hu := C06_count_only_if_uniform t.dirs ht head bound ws
    by_cases h : minW ws = maxW ws ∧ 0 < minW ws
    · cases (if_pos h).symm.trans hd
      simp only [(hu.1 h).2, pushList, Dir.enc, ints, List.append_assoc, List.cons_append, List.nil_append, List.length_map]
    · cases (if_neg h).symm.trans hd
      simp only [hu.2 h, pushList, pushWLits, Dir.enc, ints, pairs, List.append_assoc, List.cons_append, List.nil_append, List.length_map]
  | output str cond =>
    rw [dirOf] at hd
    split at hd <;> rename_i h <;> cases hd
    simp only [h, Bool.false_eq_true, ↓reduceIte, pushList, Dir.enc, List.append_assoc, List.cons_append, List.nil_append]
  | _ => cases hd <;> simp only [pushList, pushWLits, Dir.enc, ints, pairs, List.append_assoc, List.cons_append, List.nil_append, List.length_map]

theorem apply_dir (t : TO) (c : Call) (d : Dir) (hf : t.fail = false) (hd : dirOf t c = some d) : (t.apply c).dirs = t.dirs ++ d.enc := by
  rw [apply_dirOf t c d hf hd]

/-- **C06 (one statement per directive, nothing else)**: when a step ends (no theory atom pending), the text written for
    it is exactly one line per buffered directive, in the order the directives were given, each line being the text that
    directive stands for under the names known at the end of the step — and nothing else. -/
theorem C06_statement_count (t : TO) (ds : List Dir) (hf : t.fail = false) (hd : t.dirs = ds.flatMap Dir.enc)
    (ha : t.theory.atoms.drop t.theory.fAtom = []) :
    (t.apply .endStep).out = t.out ++ ds.flatMap (fun d => d.text t ++ [10]) ∧ (t.apply .endStep).dirs = [] := by
  rw [apply_endStep t hf ha]
  refine ⟨?_, rfl⟩
  rw [hd, writeLoop_encs t ds _ (by omega) [], List.nil_append]

/-- **C06 (rule lines)**: the line of a rule is its head (atoms separated by `|`, or `{…}` with `;` for a choice; `:- ` alone
    when the head is empty), then ` :- ` and the body when both head and body are non-empty, then `.`; aggregates are
    `bound{lit; …}` / `bound{lit=w; …}` and always carry both braces, also when empty. -/
theorem C06_rule_shape (t : TO) (ht : Nat) (head : List Nat) (body : List Int) (b : Int) (ws : List (Int × Int)) :
    (Dir.rule ht head body).text t = headText t ht head ++ opened (neck head) (s ", ") (body.map t.litName) ++ [46] ∧
    (Dir.rule ht [] []).text t = (if ht ≠ 0 then s "{}" else []) ++ s ":- " ++ [46] ∧
    (Dir.sum ht head b []).text t = headText t ht head ++ neck head ++ printInt b ++ s "{}." ∧
    (Dir.sum ht head b ws).text t = headText t ht head ++ neck head ++ printInt b ++ [123] ++ opened [] (s "; ") (ws.map (wlitTxt t)) ++ [125, 46] := by
  refine ⟨rfl, ?_, ?_, rfl⟩
  · simp [Dir.text, headText, opened]
  · simp [Dir.text, opened, s]

example : (write [.initProgram false, .beginStep, .sumRule 0 [1] 5 [(2, 2), (3, 2)], .sumRule 0 [1] 1 [], .sumRule 1 [] 0 [(2, 0)], .minimize 0 [], .endStep]).out
    = s "x_1 :- 3{x_2; x_3}.\nx_1 :- 1{}.\n{}:- 0{x_2=0}.\n#minimize{}@0.\n" := by rw [s_ofList]; decide +kernel
example : (write [.initProgram false, .beginStep, .output (s "foo") [1], .rule 1 [1] [-2], .endStep]).out = s "{foo} :- not x_2.\n" := by
  rw [s_ofList, s_ofList]; decide +kernel
end PotasscoVerif.C06
