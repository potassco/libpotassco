/-
  C13 (continued) — config files (`C13_cfg`).  `CfgFileParser::doParse` delivers an entry only when the next one, a comment, a blank
  line or the end of the file closes it; `Pend` is the invariant that carries the open entry through the lines.
-/
import PotasscoVerif.Props.C13b
namespace PotasscoVerif.C13
open PotasscoVerif.Options PotasscoVerif.OptIndex

def Blanks (ws : List Nat) : Prop := ∀ c ∈ ws, c = 32 ∨ c = 9
def Trimmed (t : List Nat) : Prop := (∀ c ∈ t, c ≠ 10) ∧ (∀ c r, t = c :: r → c ≠ 32 ∧ c ≠ 9) ∧ (∀ c r, t.reverse = c :: r → c ≠ 32 ∧ c ≠ 9)

theorem trimL_skip (ws r cs : List Nat) (hws : ∀ c ∈ ws, cs.contains c = true) : trimL (ws ++ r) cs = trimL r cs :=
  List.dropWhile_append_of_pos hws

theorem trimL_stop (r cs : List Nat) (hr : ∀ c t, r = c :: t → cs.contains c = false) : trimL r cs = r := by
  cases r with
  | nil => rfl
  | cons c t => exact List.dropWhile_cons_of_neg (by rw [hr c t rfl]; exact Bool.noConfusion)

theorem trimL_blanks (ws r : List Nat) (cs : List Nat) (hws : ∀ c ∈ ws, cs.contains c = true) (hr : ∀ c t, r = c :: t → cs.contains c = false) :
    trimL (ws ++ r) cs = r := (trimL_skip ws r cs hws).trans (trimL_stop r cs hr)

theorem trimR_skip (r ws cs : List Nat) (hws : ∀ c ∈ ws, cs.contains c = true) : trimR (r ++ ws) cs = trimR r cs := by
  unfold trimR
  rw [List.reverse_append, trimL_skip _ _ _ (fun c hc => hws c (List.mem_reverse.mp hc))]

theorem trimR_stop (r cs : List Nat) (hr : ∀ c t, r.reverse = c :: t → cs.contains c = false) : trimR r cs = r := by
  unfold trimR
  rw [trimL_stop _ _ hr, List.reverse_reverse]

theorem trimR_blanks (r ws : List Nat) (cs : List Nat) (hws : ∀ c ∈ ws, cs.contains c = true) (hr : ∀ c t, r.reverse = c :: t → cs.contains c = false) :
    trimR (r ++ ws) cs = r := (trimR_skip r ws cs hws).trans (trimR_stop r cs hr)

theorem trimR_append_cons (x : List Nat) (c : Nat) (w cs : List Nat) (hc : cs.contains c = false) :
    trimR (x ++ c :: w) cs = x ++ c :: trimR w cs := by
  have : ∀ a b : List Nat, (a ++ c :: b).dropWhile (fun c => cs.contains c) = a.dropWhile (fun c => cs.contains c) ++ c :: b := by
    intro a b
    induction a with
    | nil => exact List.dropWhile_cons_of_neg (by rw [hc]; exact Bool.noConfusion)
    | cons y a ih =>
      rw [List.cons_append, List.dropWhile_cons, List.dropWhile_cons]
      split
      · exact ih
      · rfl
  unfold trimR trimL
  rw [List.reverse_append, List.reverse_cons, List.append_assoc, List.singleton_append, this, List.reverse_append, List.reverse_cons,
    List.reverse_reverse, List.append_assoc, List.singleton_append]

theorem blanks_contains {ws : List Nat} (h : Blanks ws) : ∀ c ∈ ws, ([32, 9] : List Nat).contains c = true := by
  intro c hc; rcases h c hc with e | e <;> subst e <;> rfl
theorem nonblank_contains {c : Nat} (h : c ≠ 32 ∧ c ≠ 9) : ([32, 9] : List Nat).contains c = false := by
  simp only [List.contains_cons, List.contains_nil, Bool.or_false, Bool.or_eq_false_iff, beq_eq_false_iff_ne]
  exact ⟨h.1, h.2⟩
theorem trimmed_head {t : List Nat} (h : Trimmed t) (hne : t ≠ []) (rest : List Nat) : ∀ c r, t ++ rest = c :: r → ([32, 9] : List Nat).contains c = false := by
  obtain ⟨y, ys, rfl⟩ := List.exists_cons_of_ne_nil hne
  intro c r e; cases e; exact nonblank_contains (h.2.1 _ _ rfl)
theorem trimmed_last {t : List Nat} (h : Trimmed t) : ∀ c r, t.reverse = c :: r → ([32, 9] : List Nat).contains c = false := fun c r e => nonblank_contains (h.2.2 c r e)

theorem trim_blanks (lead t trail : List Nat) (hl : Blanks lead) (ht : Trimmed t) (htr : Blanks trail) (hne : t ≠ []) :
    trimR (trimL (lead ++ (t ++ trail)) [32, 9]) [32, 9] = t := by
  rw [trimL_blanks _ _ _ (blanks_contains hl) (trimmed_head ht hne trail), trimR_blanks _ _ _ (blanks_contains htr) (trimmed_last ht)]

/-! ### one line of `CfgFileParser::doParse`, by what is left of it after trimming -/
section
variable (c : Context) (aU : Bool) (s : CfgSt) (raw : List Nat)

theorem cfgLine_assign (n V : List Nat) (hline : trimR (trimL raw [32, 9]) [32, 9] = n ++ 61 :: V) (hn : ∀ x ∈ n, x ≠ 61)
    (hne : n ≠ []) (h35 : n.head? ≠ some 35) :
    cfgLine c aU s raw = (cfgFlush c aU s).map fun s' => { s' with name := trimR n [32, 9], value := trimL V [32, 9, 10], inSection := true } := by
  have hemp : (n ++ 61 :: V).isEmpty = false := by
    cases n with | nil => exact absurd rfl hne | cons _ _ => rfl
  have hhd : ((n ++ 61 :: V).head? == some 35) = false := by
    cases n with | nil => exact absurd rfl hne | cons a n' => simpa using h35
  have h61 : (n ++ 61 :: V).contains 61 = true := by simp
  unfold cfgLine
  simp only [hline, splitEq_some _ V hn, h61, hemp, hhd, Bool.or_self, Bool.false_eq_true, ↓reduceIte, Option.getD_some]
  cases cfgFlush c aU s <;> rfl

theorem cfgLine_close (h : (trimR (trimL raw [32, 9]) [32, 9]).isEmpty = true ∨ (trimR (trimL raw [32, 9]) [32, 9]).head? = some 35) :
    cfgLine c aU s raw = (cfgFlush c aU s).map fun s' => { s' with inSection := false } := by
  have hc : ((trimR (trimL raw [32, 9]) [32, 9]).isEmpty || (trimR (trimL raw [32, 9]) [32, 9]).head? == some 35) = true := by
    obtain h | h := h <;> simp [h]
  unfold cfgLine
  simp only [hc, ↓reduceIte]
  cases cfgFlush c aU s <;> rfl

theorem cfgLine_extend (t : List Nat) (hline : trimR (trimL raw [32, 9]) [32, 9] = t) (hne : t ≠ []) (h35 : t.head? ≠ some 35)
    (h61 : ∀ y ∈ t, y ≠ 61) (hs : s.inSection = true) : cfgLine c aU s raw = .ok { s with value := s.value ++ [32] ++ t } := by
  obtain ⟨a, t', rfl⟩ := List.exists_cons_of_ne_nil hne
  have ha : (a == 35) = false := by simpa using h35
  have hc : (a :: t').contains 61 = false := by
    rw [List.contains_eq_mem, decide_eq_false_iff_not]; exact fun hm => h61 61 hm rfl
  unfold cfgLine
  simp only [hline, hc, hs, List.isEmpty_cons, List.head?_cons, Option.some_beq_some, ha, Bool.or_self, Bool.false_eq_true, ↓reduceIte]
end

def joinLines : List (List Nat) → List Nat
  | [] => []
  | l :: r => l ++ 10 :: joinLines r

theorem splitLines_line (l : List Nat) (hl : ∀ c ∈ l, c ≠ 10) (rest cur : List Nat) (acc : List (List Nat)) :
    splitLines (l ++ 10 :: rest) cur acc = splitLines rest [] ((l.reverse ++ cur).reverse :: acc) := by
  induction l generalizing cur with
  | nil => simp [splitLines]
  | cons c r ih =>
    rw [List.cons_append, splitLines.eq_3 _ _ _ _ (hl c (.head _)), ih fun x hx => hl x (.tail _ hx)]
    simp

theorem splitLines_join (ls : List (List Nat)) (hl : ∀ l ∈ ls, ∀ c ∈ l, c ≠ 10) (acc : List (List Nat)) :
    splitLines (joinLines ls) [] acc = acc.reverse ++ ls := by
  induction ls generalizing acc with
  | nil => simp [joinLines, splitLines]
  | cons l r ih =>
    rw [joinLines, splitLines_line l (hl l (.head _)) _ [] acc, ih fun x hx => hl x (.tail _ hx)]
    simp

structure CfgEntry where
  key : List Nat                      -- the name as written (full name or unique prefix)
  k : Nat                             -- the option it resolves to
  wsLead : List Nat
  wsPre : List Nat                    -- between the name and `=`
  wsPost : List Nat                   -- between `=` and the value
  wsTrail : List Nat
  value : List Nat                    -- the value on the first line
  cont : List (List Nat × List Nat × List Nat)      -- continuation lines: leading blanks, text, trailing blanks

def CfgEntry.first (e : CfgEntry) : List Nat := e.wsLead ++ (e.key ++ (e.wsPre ++ (61 :: (e.wsPost ++ (e.value ++ e.wsTrail)))))
def contLine (x : List Nat × List Nat × List Nat) : List Nat := x.1 ++ (x.2.1 ++ x.2.2)
def CfgEntry.lines (e : CfgEntry) : List (List Nat) := e.first :: e.cont.map contLine
def CfgEntry.full (e : CfgEntry) : List Nat := e.cont.foldl (fun v x => v ++ [32] ++ x.2.1) e.value
def CfgEntry.ok (c : Context) (aU : Bool) (e : CfgEntry) : Prop :=
  Blanks e.wsLead ∧ Blanks e.wsPre ∧ Blanks e.wsPost ∧ Blanks e.wsTrail ∧ e.key ≠ [] ∧ Trimmed e.key ∧ (∀ x ∈ e.key, x ≠ 61) ∧ e.key.head? ≠ some 35 ∧
  Trimmed e.value ∧ getOption c aU e.key .nameOrPrefix = .ok (some e.k) ∧
  ∀ x ∈ e.cont, Blanks x.1 ∧ Blanks x.2.2 ∧ x.2.1 ≠ [] ∧ Trimmed x.2.1 ∧ (∀ y ∈ x.2.1, y ≠ 61) ∧ x.2.1.head? ≠ some 35

/-- the pending entry of a parser state: none, or the option the remembered name resolves to -/
def Pend (c : Context) (aU : Bool) (s : CfgSt) : Option Nat → Prop
  | none => s.inSection = false
  | some k => s.inSection = true ∧ getOption c aU s.name .nameOrPrefix = .ok (some k)
def pendList (s : CfgSt) : Option Nat → List (Nat × List Nat)
  | none => []
  | some k => [(k, s.value)]

theorem cfgFlush_pend (c : Context) (aU : Bool) (s : CfgSt) (p : Option Nat) (h : Pend c aU s p) :
    cfgFlush c aU s = .ok { s with values := s.values ++ pendList s p } := by
  unfold cfgFlush
  cases p with
  | none => simp only [Pend] at h; cases s; simp_all [pendList]
  | some k => obtain ⟨h1, h2⟩ := h; simp [h1, h2, pendList]

theorem cfgLine_first (c : Context) (aU : Bool) (s : CfgSt) (p : Option Nat) (hp : Pend c aU s p) (e : CfgEntry) (he : e.ok c aU) :
    cfgLine c aU s e.first = .ok { values := s.values ++ pendList s p, name := e.key, value := e.value, inSection := true } := by
  obtain ⟨hl, hpre, hpost, htr, hne, hkey, hk61, hk35, hval, _, _⟩ := he
  -- the trimmed line is `key wsPre = V` where `V` is the value behind its leading blanks
  have hline : trimR (trimL e.first [32, 9]) [32, 9] = (e.key ++ e.wsPre) ++ 61 :: trimR (e.wsPost ++ e.value) [32, 9] := by
    rw [CfgEntry.first, trimL_blanks _ _ _ (blanks_contains hl) (trimmed_head hkey hne _), ← List.append_assoc, trimR_append_cons _ _ _ _ (by rfl),
      ← List.append_assoc, trimR_skip _ _ _ (blanks_contains htr)]
  have hV : trimL (trimR (e.wsPost ++ e.value) [32, 9]) [32, 9, 10] = e.value := by
    by_cases hv : e.value = []
    · rw [hv, ← List.nil_append (e.wsPost ++ []), List.append_nil, trimR_skip _ _ _ (blanks_contains hpost)]; rfl
    · rw [trimR_stop, trimL_blanks _ _ _ fun c hc => by rcases hpost c hc with e | e <;> subst e <;> rfl]
      · intro x t ex
        have h1 := hval.2.1 x t ex
        have h2 := hval.1 x (by rw [ex]; exact List.mem_cons_self ..)
        simp only [List.contains_cons, List.contains_nil, Bool.or_false, Bool.or_eq_false_iff, beq_eq_false_iff_ne]
        exact ⟨h1.1, h1.2, h2⟩
      · intro x t ex
        obtain ⟨y, ys, hrv⟩ := List.exists_cons_of_ne_nil (fun h => hv (List.reverse_eq_nil_iff.mp h))
        rw [List.reverse_append, hrv] at ex; cases ex
        exact trimmed_last hval _ _ hrv
  have hn61 : ∀ x ∈ e.key ++ e.wsPre, x ≠ 61 := fun x hx =>
    (List.mem_append.mp hx).elim (hk61 x) fun h => by rcases hpre x h with e' | e' <;> omega
  rw [cfgLine_assign c aU s _ _ _ hline hn61 (by rw [Ne, List.append_eq_nil_iff]; exact fun h => hne h.1)
    (by obtain ⟨y, ys, ek⟩ := List.exists_cons_of_ne_nil hne; rw [ek] at hk35 ⊢; exact hk35),
    cfgFlush_pend c aU s p hp, hV, trimR_blanks _ _ _ (blanks_contains hpre) (trimmed_last hkey)]
  rfl

theorem foldl_cont (c : Context) (aU : Bool) (l : List (List Nat × List Nat × List Nat))
    (hl : ∀ x ∈ l, Blanks x.1 ∧ Blanks x.2.2 ∧ x.2.1 ≠ [] ∧ Trimmed x.2.1 ∧ (∀ y ∈ x.2.1, y ≠ 61) ∧ x.2.1.head? ≠ some 35)
    (s : CfgSt) (hs : s.inSection = true) :
    (l.map contLine).foldlM (cfgLine c aU) s = .ok { s with value := l.foldl (fun v x => v ++ [32] ++ x.2.1) s.value } := by
  induction l generalizing s with
  | nil => rfl
  | cons x r ih =>
    obtain ⟨h1, h2, hne, ht, h61, h35⟩ := hl x (.head _)
    simp only [List.map_cons, List.foldlM_cons, cfgLine_extend c aU s (contLine x) _ (trim_blanks _ _ _ h1 ht h2 hne) hne h35 h61 hs, bind, Except.bind,
      List.foldl_cons]
    exact ih (fun y hy => hl y (.tail _ hy)) _ hs

inductive CfgItem where
  | entry (e : CfgEntry)
  | comment (lead body : List Nat)         -- blanks, `#`, anything up to the end of the line
  | blank (ws : List Nat)

def CfgItem.lines : CfgItem → List (List Nat)
  | .entry e => e.lines
  | .comment lead body => [lead ++ 35 :: body]
  | .blank ws => [ws]
def CfgItem.ok (c : Context) (aU : Bool) : CfgItem → Prop
  | .entry e => e.ok c aU
  | .comment lead body => Blanks lead ∧ ∀ x ∈ body, x ≠ 10
  | .blank ws => Blanks ws
def CfgItem.pair : CfgItem → Option (Nat × List Nat)
  | .entry e => some (e.k, e.full)
  | _ => none

theorem cfgLine_skip (c : Context) (aU : Bool) (s : CfgSt) (p : Option Nat) (hp : Pend c aU s p) (raw : List Nat)
    (h : (∀ x ∈ raw, x = 32 ∨ x = 9) ∨ ∃ lead body, raw = lead ++ 35 :: body ∧ Blanks lead) :
    cfgLine c aU s raw = .ok { s with values := s.values ++ pendList s p, inSection := false } := by
  rw [cfgLine_close c aU s raw, cfgFlush_pend c aU s p hp]; rfl
  obtain h | ⟨lead, body, rfl, hl⟩ := h
  · left
    rw [← List.append_nil raw, trimL_skip _ _ _ (blanks_contains h)]; rfl
  · right
    rw [trimL_blanks lead (35 :: body) [32, 9] (blanks_contains hl) (by intro x t ex; cases ex; rfl), ← List.nil_append (35 :: body),
      trimR_append_cons _ _ _ _ (by rfl)]
    rfl

/-- one item: the pending entry is delivered, and the item becomes the pending entry (if it is one) -/
theorem item_step (c : Context) (aU : Bool) (it : CfgItem) (hit : it.ok c aU) (s : CfgSt) (p : Option Nat) (hp : Pend c aU s p) :
    ∃ s', it.lines.foldlM (cfgLine c aU) s = .ok s' ∧ s'.values = s.values ++ pendList s p ∧
      Pend c aU s' (it.pair.map (·.1)) ∧ pendList s' (it.pair.map (·.1)) = it.pair.toList := by
  cases it with
  | entry e =>
    have he : e.ok c aU := hit
    simp only [CfgItem.lines, CfgEntry.lines, List.foldlM_cons, cfgLine_first c aU s p hp e he, bind, Except.bind]
    rw [foldl_cont c aU e.cont he.2.2.2.2.2.2.2.2.2.2 _ rfl]
    exact ⟨_, rfl, rfl, ⟨rfl, he.2.2.2.2.2.2.2.2.2.1⟩, rfl⟩
  | comment lead body =>
    obtain ⟨hl, _⟩ := hit
    simp only [CfgItem.lines, List.foldlM_cons, List.foldlM_nil, cfgLine_skip c aU s p hp _ (Or.inr ⟨lead, body, rfl, hl⟩), bind, Except.bind]
    exact ⟨_, rfl, rfl, rfl, rfl⟩
  | blank ws =>
    simp only [CfgItem.lines, List.foldlM_cons, List.foldlM_nil, cfgLine_skip c aU s p hp _ (Or.inl hit), bind, Except.bind]
    exact ⟨_, rfl, rfl, rfl, rfl⟩

theorem items_run (c : Context) (aU : Bool) : ∀ (items : List CfgItem), (∀ it ∈ items, it.ok c aU) → ∀ (s : CfgSt) (p : Option Nat), Pend c aU s p →
    ∃ s' p', (items.flatMap CfgItem.lines).foldlM (cfgLine c aU) s = .ok s' ∧ Pend c aU s' p' ∧
      s'.values ++ pendList s' p' = s.values ++ pendList s p ++ items.filterMap CfgItem.pair := by
  intro items
  induction items with
  | nil => intro _ s p hp; exact ⟨s, p, rfl, hp, by simp⟩
  | cons it r ih =>
    intro hok s p hp
    obtain ⟨s1, e1, hv1, hp1, hl1⟩ := item_step c aU it (hok it (.head _)) s p hp
    obtain ⟨s2, p2, e2, hp2, hv2⟩ := ih (fun x hx => hok x (.tail _ hx)) s1 _ hp1
    refine ⟨s2, p2, ?_, hp2, ?_⟩
    · simp only [List.flatMap_cons, List.foldlM_append, e1, bind, Except.bind, e2]
    · rw [hv2, hv1, hl1]
      cases hpair : it.pair <;> simp [hpair]

theorem item_lines_nolf (c : Context) (aU : Bool) (it : CfgItem) (hit : it.ok c aU) : ∀ l ∈ it.lines, ∀ x ∈ l, x ≠ 10 := by
  have hb : ∀ {ws : List Nat}, Blanks ws → ∀ x ∈ ws, x ≠ 10 := by
    intro ws h x hx; rcases h x hx with e | e <;> omega
  have happ : ∀ {a b : List Nat}, (∀ x ∈ a, x ≠ 10) → (∀ x ∈ b, x ≠ 10) → ∀ x ∈ a ++ b, x ≠ 10 :=
    fun ha hb x hx => (List.mem_append.mp hx).elim (ha x) (hb x)
  have hcons : ∀ {a : Nat} {b : List Nat}, a ≠ 10 → (∀ x ∈ b, x ≠ 10) → ∀ x ∈ a :: b, x ≠ 10 :=
    fun ha hb x hx => (List.mem_cons.mp hx).elim (· ▸ ha) (hb x)
  cases it with
  | entry e =>
    obtain ⟨hl, hpre, hpost, htr, _, hkey, _, _, hval, _, hcont⟩ := hit
    refine List.forall_mem_cons.mpr ⟨happ (hb hl) (happ hkey.1 (happ (hb hpre) (hcons (by decide) (happ (hb hpost) (happ hval.1 (hb htr)))))), ?_⟩
    refine List.forall_mem_map.mpr fun y hy => ?_
    exact happ (hb (hcont y hy).1) (happ (hcont y hy).2.2.2.1.1 (hb (hcont y hy).2.1))
  | comment lead body => exact List.forall_mem_singleton.mpr (happ (hb hit.1) (hcons (by decide) hit.2))
  | blank ws => exact List.forall_mem_singleton.mpr (hb hit)

/-- **C13 (config files)**: a file of `name = value` lines — any blanks before the name, around `=` and behind the value; the name written in full
    or as a unique prefix; values that may be empty or contain `=` — with continuation lines, `#` comment lines and blank lines, every line ended
    by a line feed, yields exactly the intended (option, value) pairs in order; a continuation line extends the value by one blank and its text. -/
theorem C13_cfg (c : Context) (aU : Bool) (items : List CfgItem) (hok : ∀ it ∈ items, it.ok c aU) :
    parseCfg c aU (joinLines (items.flatMap CfgItem.lines)) = .ok (items.filterMap CfgItem.pair) := by
  unfold parseCfg
  have hsplit : splitLines (joinLines (items.flatMap CfgItem.lines)) [] [] = items.flatMap CfgItem.lines :=
    splitLines_join _ (fun l hl => by
      obtain ⟨it, hit, hl⟩ := List.mem_flatMap.mp hl
      exact item_lines_nolf c aU it (hok it hit) l hl) []
  obtain ⟨s', p', e, hp, hv⟩ := items_run c aU items hok {} none rfl
  rw [hsplit]
  simp only [e, bind, Except.bind, cfgFlush_pend c aU s' p' hp, pure, Except.pure]
  simpa [pendList] using hv

theorem trimmed_of_bool (t : List Nat) (h : (t.all (fun c => c != 10) && (t.head?.all (fun c => c != 32 && c != 9)) && (t.reverse.head?.all (fun c => c != 32 && c != 9))) = true) :
    Trimmed t := by
  simp only [Bool.and_eq_true, List.all_eq_true, bne_iff_ne, ne_eq] at h
  obtain ⟨⟨h1, h2⟩, h3⟩ := h
  refine ⟨h1, ?_, ?_⟩
  · intro c r e; rw [e] at h2; simpa using h2
  · intro c r e; rw [e] at h3; simpa using h3

/-! non-vacuity: `# c␤  nu =  3 ␤   4␤␤verb=␤` with the context of Props/C13b.lean gives [(num, "3 4"), (verb, "")] -/
def exCfg : List CfgItem :=
  [ .comment [] [32, 99],
    .entry { key := [110, 117], k := 0, wsLead := [32, 32], wsPre := [32], wsPost := [32, 32], wsTrail := [32], value := [51], cont := [([32, 32, 32], [52], [])] },
    .blank [],
    .entry { key := [118, 101, 114, 98], k := 1, wsLead := [], wsPre := [], wsPost := [], wsTrail := [], value := [], cont := [] } ]

example : parseCfg exCtx false (joinLines (exCfg.flatMap CfgItem.lines)) = .ok [(0, [51, 32, 52]), (1, [])] := by rfl
example : exCfg.filterMap CfgItem.pair = [(0, [51, 32, 52]), (1, [])] := by decide
example : ∀ it ∈ exCfg, it.ok exCtx false := by
  have hb : ∀ ws : List Nat, ws.all (· == 32) = true → Blanks ws := fun ws h c hc => Or.inl (by simpa using List.all_eq_true.mp h c hc)
  intro it hit
  simp only [exCfg, List.mem_cons, List.not_mem_nil, or_false] at hit
  rcases hit with rfl | rfl | rfl | rfl
  · exact ⟨hb _ rfl, by decide⟩
  · refine ⟨hb _ rfl, hb _ rfl, hb _ rfl, hb _ rfl, List.cons_ne_nil _ _, trimmed_of_bool _ rfl, by decide, by decide, trimmed_of_bool _ rfl, rfl, ?_⟩
    intro x hx; cases List.mem_singleton.mp hx
    exact ⟨hb _ rfl, hb _ rfl, List.cons_ne_nil _ _, trimmed_of_bool _ rfl, by decide, by decide⟩
  · exact hb _ rfl
  · exact ⟨hb _ rfl, hb _ rfl, hb _ rfl, hb _ rfl, List.cons_ne_nil _ _, trimmed_of_bool _ rfl, by decide, by decide, trimmed_of_bool _ rfl, rfl, fun _ h => nomatch h⟩

end PotasscoVerif.C13
