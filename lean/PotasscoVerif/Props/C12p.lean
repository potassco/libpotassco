/-
  C12 (continued) — `print()`: re-emitting the stored terms and atoms through the program interface reproduces them.
  Model: Model/TheoryPrint.lean.
-/
import PotasscoVerif.Props.C12
import PotasscoVerif.Model.TheoryPrint
namespace PotasscoVerif.C12
open PotasscoVerif PotasscoVerif.TheoryData

/-- the call printed for an id right after it was (re)defined is the call that defined it -/
theorem C12_print_term (d d' : TD) (id : Nat) (t : Term) (hs : d.addTerm id t = some d') :
    (d'.getTerm id).map (Term.call id) = some (Term.call id t) ∧ d.receive (Term.call id t) = some d' := by
  refine ⟨by rw [C12_term_add d d' id t hs id]; simp, ?_⟩
  cases t <;> exact hs

/-- … and so is the call printed for an atom -/
theorem C12_print_atom (d : TD) (a : Atom) :
    (d.addAtom a).printAtoms = d.printAtoms ++ [a.call] ∧ d.receive a.call = some (d.addAtom a) := by
  refine ⟨by simp [TD.printAtoms, TD.addAtom], rfl⟩

def receiveAll (d : TD) (cs : List Call) : Option TD := cs.foldlM TD.receive d

theorem receiveAll_append (d : TD) (a b : List Call) : receiveAll d (a ++ b) = (receiveAll d a).bind (fun d' => receiveAll d' b) := by
  simp [receiveAll, List.foldlM_append]

theorem receive_terms (d : TD) : ∀ n, ∃ r, receiveAll {} (d.printTermsBelow n) = some r ∧ r.fTerm = 0 ∧ r.atoms = [] ∧
    ∀ j, r.getTerm j = if j < n then d.getTerm j else none := by
  intro n
  induction n with
  | zero => exact ⟨{}, rfl, rfl, rfl, fun j => by simp [TD.getTerm]⟩
  | succ n ih =>
    obtain ⟨r, hr, hf, ha, hg⟩ := ih
    have hsplit : d.printTermsBelow (n + 1) = d.printTermsBelow n ++ ((d.getTerm n).map (Term.call n)).toList := by
      simp only [TD.printTermsBelow, List.range_succ, List.filterMap_append]
      cases hh : d.getTerm n <;> simp [List.filterMap, hh]
    rw [hsplit, receiveAll_append, hr]
    have hnone : r.getTerm n = none := by rw [hg n, if_neg (Nat.lt_irrefl n)]
    have key : ∀ (r' : TD) (o : Option Term), d.getTerm n = o → (∀ j, r'.getTerm j = if j = n then o else r.getTerm j) →
        ∀ j, r'.getTerm j = if j < n + 1 then d.getTerm j else none := fun r' o ho h j => by
      rw [h j, hg j]
      by_cases h2 : j = n
      · rw [if_pos h2, if_pos (h2 ▸ Nat.lt_succ_self n), h2, ho]
      · simp only [Nat.lt_succ_iff_lt_or_eq, h2, or_false, if_false]
    cases hn : d.getTerm n with
    | none =>
      exact ⟨r, rfl, hf, ha, key r none hn fun j => by
        by_cases h : j = n
        · rw [if_pos h, h, hnone]
        · rw [if_neg h]⟩
    | some t =>
      obtain ⟨r', hadd, hf', ha'⟩ : ∃ r', r.addTerm n t = some r' ∧ r'.fTerm = 0 ∧ r'.atoms = [] :=
        ⟨{ r with terms := (padTo r.terms (n + 1)).set n (some t), live := r.live + t.heap },
          by unfold TD.addTerm TD.hasTerm; rw [hnone]; rfl, hf, ha⟩
      have hrec : r.receive (Term.call n t) = r.addTerm n t := by cases t <;> rfl
      exact ⟨r', by simp [receiveAll, hrec, hadd], hf', ha', key r' _ hn (C12_term_add r r' n t hadd)⟩

theorem receive_atoms (r : TD) (as : List Atom) : ∃ r', receiveAll r (as.map Atom.call) = some r' ∧ r'.atoms = r.atoms ++ as ∧ r'.terms = r.terms := by
  induction as generalizing r with
  | nil => exact ⟨r, rfl, by simp, rfl⟩
  | cons a as ih =>
    obtain ⟨r', h1, h2, h3⟩ := ih (r.addAtom a)
    refine ⟨r', ?_, ?_, ?_⟩
    · simpa [receiveAll, Atom.call, TD.receive] using h1
    · rw [h2]; simp [TD.addAtom]
    · rw [h3]; rfl

/-- a fresh store that receives the calls `print()` makes for all terms and atoms of any store `d` (whatever history produced
    `d`) refuses none of them, and then answers every term lookup and lists the atoms exactly as `d` does -/
theorem C12_print_replays (d : TD) : ∃ r, receiveAll {} (d.printTerms ++ d.printAtoms) = some r ∧
    (∀ j, r.getTerm j = d.getTerm j) ∧ r.atoms = d.atoms := by
  obtain ⟨r, hr, _, ha, hg⟩ := receive_terms d d.terms.length
  obtain ⟨r', h1, h2, h3⟩ := receive_atoms r d.atoms
  refine ⟨r', ?_, fun j => ?_, ?_⟩
  · rw [receiveAll_append]; unfold TD.printTerms TD.printAtoms; rw [hr]; exact h1
  · have : r'.getTerm j = r.getTerm j := by unfold TD.getTerm; rw [h3]
    rw [this, hg j]
    by_cases h : j < d.terms.length
    · simp [h]
    · simp only [h, if_false]
      unfold TD.getTerm
      rw [List.getElem?_eq_none_iff.mpr (Nat.le_of_not_lt h)]; rfl
  · rw [h2, ha]; simp

/-! non-vacuity: a store with a removed slot, a redefinition across a step mark and two atoms -/
def exStore : TD :=
  let d : TD := {}
  let d := (d.addTerm 0 (.num 7)).getD d
  let d := (d.addTerm 2 (.sym [102])).getD d
  let d := (d.addTerm 3 (.comp 2 [0])).getD d
  let d := d.addAtom { atom := 1, term := 3, elems := [], guard := none }
  let d := d.update
  let d := (d.addTerm 0 (.num 9)).getD d
  let d := d.removeTerm 2
  d.addAtom { atom := 0, term := 0, elems := [], guard := some (3, 0) }

example : exStore.printTerms ++ exStore.printAtoms =
    [.theoryNum 0 9, .theoryCompound 3 2 [0], .theoryAtom 1 3 [] none, .theoryAtom 0 0 [] (some (3, 0))] := by decide

end PotasscoVerif.C12
