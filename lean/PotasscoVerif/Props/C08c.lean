/-
  C08 (continued) — acyclicity edges at the level of answer sets: converting a program step with `#edge` directives (potassco extensions
  enabled, i.e. the edges are represented by `_edge(s,t)` helper symbols) keeps, in corresponding answer sets, exactly the same edges active.
  A corollary of `C02_equivalence_ext`, whose `shown` counts the helper name of an edge among the names a program asks to show (`edges_shown`).
  Heuristic directives likewise (`C08_heuristics_active`): each is emitted as a `_heuristic(…)` symbol on an atom that stands for its condition
  (Lemmas/ConvertHeu.lean).
-/
import PotasscoVerif.Props.C02x
import PotasscoVerif.Props.C08b
import PotasscoVerif.Lemmas.ConvertHeu
namespace PotasscoVerif.C08
open PotasscoVerif PotasscoVerif.Asp PotasscoVerif.Convert PotasscoVerif.C02

theorem edgeName_eq (a b : Int) : edgeName a b = edgeText a b := rfl

/-- different node pairs have different helper names (the reader recovers both node names from the text) -/
theorem edgeName_inj (a b a' b' : Int) (ha : -2147483648 ≤ a ∧ a ≤ 2147483647) (hb : -2147483648 ≤ b ∧ b ≤ 2147483647)
    (ha' : -2147483648 ≤ a' ∧ a' ≤ 2147483647) (hb' : -2147483648 ≤ b' ∧ b' ≤ 2147483647) (h : edgeName a b = edgeName a' b') : a = a' ∧ b = b' := by
  have h1 := C08_edge_text_roundtrip a b
  have h2 := C08_edge_text_roundtrip a' b'
  rw [← edgeName_eq, h, edgeName_eq] at h1
  rw [h2] at h1
  simp only [Prod.mk.injEq, true_and, and_true] at h1
  have inj : ∀ (x y : Int), (-2147483648 ≤ x ∧ x ≤ 2147483647) → (-2147483648 ≤ y ∧ y ≤ 2147483647) → AspifOut.printInt x = AspifOut.printInt y → x = y := by
    intro x y hx hy e
    have e1 := cInt_printInt x hx [] Decimal.NDS_nil
    have e2 := cInt_printInt y hy [] Decimal.NDS_nil
    rw [e] at e1; rw [e2] at e1
    simpa using e1.symm
  exact ⟨(inj a' a ha' ha h1.1).symm, (inj b' b hb' hb h1.2).symm⟩

/-- an edge from `a` to `b` is active under `X`: some `#edge(a,b)` directive of the program has a true condition -/
def edgeActive (ds : List Call) (X : I) (a b : Int) : Prop := ∃ cond, Call.acycEdge a b cond ∈ ds ∧ bodyR X X (.normal cond) = true

theorem srcOuts_mem (ds : List Call) (n : List Nat) (cond : List Int) :
    (n, cond) ∈ srcOuts ds ↔ Call.output n cond ∈ ds ∨ ∃ a b, Call.acycEdge a b cond ∈ ds ∧ n = edgeName a b := by
  unfold srcOuts
  simp only [List.mem_filterMap]
  constructor
  · rintro ⟨x, hx, he⟩
    cases x with
    | output n' c' =>
      simp only [srcOut, Option.some.injEq, Prod.mk.injEq] at he
      obtain ⟨e1, e2⟩ := he; subst e1; subst e2; exact Or.inl hx
    | acycEdge a b c' =>
      simp only [srcOut, Option.some.injEq, Prod.mk.injEq] at he
      obtain ⟨e1, e2⟩ := he; subst e2; exact Or.inr ⟨_, _, hx, e1.symm⟩
    | _ => cases he
  · rintro (h | ⟨a, b, h, e⟩)
    · exact ⟨_, h, rfl⟩
    · exact ⟨_, h, by simp [srcOut, e]⟩

/-- once the given and the emitted program show the same names (node numbers in the int range; no output directive uses a helper name) -/
theorem edges_shown {cs out : List Call} {E : I → I} (h3 : ∀ X name, C02.shown cs X name ↔ shownOut out (E X) name)
    (hr : ∀ a b cond, Call.acycEdge a b cond ∈ cs → (-2147483648 ≤ a ∧ a ≤ 2147483647) ∧ (-2147483648 ≤ b ∧ b ≤ 2147483647))
    (hno : ∀ n cond, Call.output n cond ∈ cs → ∀ a b, n ≠ edgeName a b)
    (X : I) (a b : Int) (ha : -2147483648 ≤ a ∧ a ≤ 2147483647) (hb : -2147483648 ≤ b ∧ b ≤ 2147483647) :
    edgeActive cs X a b ↔ shownOut out (E X) (edgeName a b) := by
  rw [← h3 X (edgeName a b)]
  unfold edgeActive C02.shown
  constructor
  · rintro ⟨cond, hm, hb'⟩
    exact ⟨cond, (srcOuts_mem cs _ cond).mpr (Or.inr ⟨a, b, hm, rfl⟩), hb'⟩
  · rintro ⟨cond, hm, hb'⟩
    rcases (srcOuts_mem cs _ cond).mp hm with h | ⟨a', b', h, e⟩
    · exact absurd rfl (hno _ cond h a b)
    · obtain ⟨ra, rb⟩ := hr a' b' cond h
      obtain ⟨rfl, rfl⟩ := edgeName_inj a b a' b' ha hb ra rb e
      exact ⟨cond, h, hb'⟩

/-- **C08 (edges, answer-set level)**: for every program step of rules, minimize, output, ANY external and edge directives (node numbers in the int range;
    no output directive uses an `_edge(…)` helper name), converted with the extensions on (externals passed on, `progOf` reads them): the answer sets correspond one to one (`C02_equivalence_ext`),
    and under corresponding answer sets an edge `(a,b)` is active in the given program iff the emitted program shows `_edge(a,b)` — the symbol the
    smodels reader turns back into an edge on that condition atom (`C08_table_read`). -/
theorem C08_edges_active (inc : Bool) (ds : List Call) (hx : ∀ d ∈ ds, PlainOk d) (hnh : ∀ d ∈ ds, isHeu d = false)
    (hr : ∀ a b cond, Call.acycEdge a b cond ∈ ds → (-2147483648 ≤ a ∧ a ≤ 2147483647) ∧ (-2147483648 ≤ b ∧ b ≤ 2147483647))
    (hno : ∀ n cond, Call.output n cond ∈ ds → ∀ a b, n ≠ edgeName a b) :
    ∃ E : I → I,
      (∀ X, Stable (progOf ds) X → Stable (progOf (convert true (stepCalls inc ds)).out) (E X) ∧ E X 1 = false) ∧
      (∀ X', Stable (progOf (convert true (stepCalls inc ds)).out) X' → X' 1 = false → ∃ X, Stable (progOf ds) X ∧ E X = X') ∧
      (∀ X a b, (-2147483648 ≤ a ∧ a ≤ 2147483647) → (-2147483648 ≤ b ∧ b ≤ 2147483647) →
        (edgeActive ds X a b ↔ shownOut (convert true (stepCalls inc ds)).out (E X) (edgeName a b))) := by
  obtain ⟨E, h1, h2, h3⟩ := C02_equivalence_ext inc ds hx hnh
  exact ⟨E, fun X hs => ⟨(h1 X hs).1, (h1 X hs).2.1⟩, fun X' hs h0 => ⟨_, h2 X' hs h0⟩, edges_shown h3 hr hno⟩

theorem heuOutName_eq (nm : List Nat) (h : Heu) : heuOutName nm h = heuText nm h.type h.bias h.prio := rfl

/-- **C08 (heuristics, answer-set level)**: for every program step of rules, minimize, output, external, edge and heuristic directives converted with
    the extensions on, the answer sets of the given and of the emitted program correspond one to one (`E` / restriction, as in C02), and for every
    `#heuristic` directive on an atom that occurs in the program the emitted program contains an output directive
    `_heuristic(name,modifier,bias,priority)` — the same modifier, bias and priority — on an atom that is true under `E X` exactly when the
    directive's condition holds under `X` — the modification is active in corresponding answer sets, and only there — and `name` is a name under which the
    emitted program shows the atom `a` is mapped to (a display name given by an output directive, or the generated `_atom(n)`).  (`C08_table_read` /
    `C08_heuristics_resolved`: the smodels reader turns that symbol back into a heuristic directive on the atom its `name` denotes.) -/
theorem C08_heuristics_active (inc : Bool) (ds : List Call) (hx : ∀ d ∈ ds, PlainOk d) :
    ∃ E : I → I,
      (∀ X, Stable (progOf ds) X → Stable (progOf (convert true (stepCalls inc ds)).out) (E X) ∧ E X 1 = false ∧ restrict (convert true (stepCalls inc ds)) (E X) = X) ∧
      (∀ X', Stable (progOf (convert true (stepCalls inc ds)).out) X' → X' 1 = false →
        Stable (progOf ds) (restrict (convert true (stepCalls inc ds)) X') ∧ E (restrict (convert true (stepCalls inc ds)) X') = X') ∧
      (∀ a t b p cond, Call.heuristic a t b p cond ∈ ds → a ∈ domOf (preEnd true inc ds) →
        ∃ nm n sm, Call.output (heuText nm t b p) [(n : Int)] ∈ (convert true (stepCalls inc ds)).out ∧
          (∀ X, bodyR (E X) (E X) (.normal [(n : Int)]) = bodyR X X (.normal cond)) ∧
          (a, sm) ∈ (abs (convert true (stepCalls inc ds))).ids ∧ Call.output nm [(sm : Int)] ∈ (convert true (stepCalls inc ds)).out) := by
  obtain ⟨defs, h1, q1, x1, y1⟩ := preEnd_JHX true inc ds hx
  have hj := h1.endStep x1.m (Or.inr (preEnd_ext true inc ds hx))
  have hshape := flushShape_flushMinimize _ x1.m
  rw [← convert_step] at hj
  obtain ⟨s1, s2⟩ := answer_sets hj (step_trans_ext inc ds hx hj)
  refine ⟨_, s1, s2, ?_⟩
  rw [convert_step] at hj ⊢
  intro a t b p cond hmem hdom
  obtain ⟨e, he, e1, e2, e3, e4, hrep⟩ := HRel.mem _ _ q1 _ (List.mem_filterMap.mpr ⟨_, hmem, rfl⟩)
  simp only at e1 e2 e3 e4 hrep
  obtain ⟨nm, sm, hid, hout, hname⟩ := flush_heu_named (preEnd true inc ds) h1.nofail h1.inv y1 hshape e he (by rw [e1]; exact hdom)
  rw [heuOutName_eq, e2, e3, e4] at hout
  exact ⟨nm, e.cond, sm, hout, fun X => rep_val hj X e.cond cond (hrep.mono (apply_steps _ _) fun d hd => hd), e1 ▸ hid, hname⟩

end PotasscoVerif.C08
