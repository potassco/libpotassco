/-
  C04 for the smodels reader with every option set (Model/SmodelsIn.lean, Model/SmodelsSym.lean).
-/
import PotasscoVerif.Lemmas.Contract
import PotasscoVerif.Model.SmodelsSym
namespace PotasscoVerif.C04
open PotasscoVerif PotasscoVerif.CharStream
open PotasscoVerif.AspifIn (P Result)
open PotasscoVerif.AspifIn PotasscoVerif.SmodelsIn PotasscoVerif.SmodelsSym

theorem signed_ok (as : List Nat) (h : ∀ a ∈ as, atomOk a) : ∀ n, ∀ l ∈ signed n as, litOk l := by
  induction as with
  | nil => intro n l hl; cases n <;> cases hl
  | cons a r ih =>
    have ⟨ha, hr⟩ := List.forall_mem_cons.mp h
    intro n
    cases n with
    | zero => exact List.forall_mem_cons.mpr ⟨ha.pos, ih hr 0⟩
    | succ n => exact List.forall_mem_cons.mpr ⟨ha.neg, ih hr n⟩

theorem body_post : Post body (fun b => ∀ l ∈ b, litOk l) :=
  .skip fun _ => .skip fun neg => .bind (.rep0 atom_post _) fun as has => .ok (signed_ok as has neg)

theorem sum_post (w : Bool) : Post (SmodelsIn.sum w) (fun r => i32 r.1 ∧ ∀ p ∈ r.2, litOk p.1 ∧ 0 ≤ p.2 ∧ i32 p.2) :=
  .skip fun x => .skip fun y => .skip fun z => .ite _ (fun _ => .error) fun hb => by
    intro a r a' h
    have hbnd := i32_natCast (Nat.le_of_not_gt hb)
    cases w <;> simp only [Bool.false_eq_true, ↓reduceIte] at h
    · -- cardinality rule: `x` literals, `y` of them negative, bound `z`; every weight is 1
      split at h
      · cases h
      · rename_i as a4 has
        cases h
        refine ⟨hbnd, fun p hp => ?_⟩
        obtain ⟨l, hl, e⟩ := List.mem_map.mp hp
        exact e ▸ ⟨signed_ok as (Post.rep0 atom_post _ _ _ _ has) y l hl, (by decide : (0 : Int) ≤ 1), (⟨by decide, by decide⟩ : i32 1)⟩
    · -- weight rule: bound `x`, `y` literals, `z` of them negative, then the `y` weights
      split at h
      · cases h
      · rename_i as a4 has
        split at h
        · cases h
        · rename_i ws a5 hws
          cases h
          refine ⟨hbnd, fun p hp => ?_⟩
          obtain ⟨h1, h2⟩ := List.of_mem_zip hp
          obtain ⟨v, hv, e⟩ := List.mem_map.mp h2
          rw [← e]
          exact ⟨signed_ok as (Post.rep0 atom_post _ _ _ _ has) z _ h1, Int.natCast_nonneg v, i32_natCast (Post.rep0 (posMax_post _) _ _ _ _ hws v hv)⟩

/-- cases in the order of `ruleOf`; the step marker (`ClaspIncrement`) delivers no call -/
theorem ruleOf_post (ext : Bool) (rt prio : Nat) : Post (ruleOf ext rt prio) (fun r => OptOk r.1) :=
  .ite _ (fun _ => .skip fun _ => .bind (.rep0 atom_post _) fun _ hhd => .bind body_post fun _ hb =>
    .ok ⟨⟨ite_ind (Q := (· ≤ 1)) _ (fun _ => Nat.le_refl 1) fun _ => Nat.zero_le 1, hhd, hb⟩, rfl⟩) fun _ =>
  .ite _ (fun _ => .bind atom_post fun _ hh => .bind body_post fun _ hb => .ok ⟨⟨Nat.zero_le _, List.forall_mem_singleton.mpr hh, hb⟩, rfl⟩) fun _ =>
  .ite _ (fun _ => .bind atom_post fun _ hh => .bind (sum_post _) fun ⟨_, _⟩ hs =>
    .ok ⟨⟨Nat.zero_le _, List.forall_mem_singleton.mpr hh, hs.1, hs.2⟩, rfl⟩) fun _ =>
  .ite _ (fun _ => .bind (sum_post _) fun ⟨_, _⟩ hs => .ok ⟨fun q hq => ⟨(hs.2 q hq).1, (hs.2 q hq).2.2⟩, rfl⟩) fun _ =>
  .ite _ (fun _ => .ite _ (fun _ => .error) fun _ => .skip fun _ => .ite _ (fun _ => .error) fun _ => .ok trivial) fun _ =>
  .ite _ (fun _ => .ite _ (fun _ => .error) fun _ => .bind atom_post fun _ hh => .bind (posMax_post 2) fun v hv =>
    .ok ⟨⟨hh, Nat.le_trans (Nat.sub_le _ 1) (Nat.le_of_lt_succ (Nat.xor_lt_two_pow (n := 2) (Nat.lt_of_le_of_lt hv (by decide)) (by decide)))⟩, rfl⟩) fun _ =>
  .ite _ (fun _ => .ite _ (fun _ => .error) fun _ => .bind atom_post fun _ hh => .ok ⟨⟨hh, Nat.le_refl 3⟩, rfl⟩) fun _ =>
  .error

attribute [local irreducible] ruleOf pos in
theorem rulesLoop_succ (ext : Bool) (f : Nat) (a : AS) (prio : Nat) (acc : List Call) : rulesLoop ext (f + 1) a prio acc =
    (match pos a with
     | .error l => (acc.reverse, .error l)
     | .ok (rt, a1) =>
       if rt = 0 then (acc.reverse, .ok a1) else
       match ruleOf ext rt prio a1 with
       | .error l => (acc.reverse, .error l)
       | .ok ((c, prio'), a2) => rulesLoop ext f a2 prio' (match c with | some c => c :: acc | none => acc)) := rfl

theorem rulesLoop_zero (ext : Bool) (a : AS) (prio : Nat) (acc : List Call) : rulesLoop ext 0 a prio acc = (acc.reverse, .error a.line) := rfl

theorem rulesLoop_ok (ext : Bool) : ∀ (f : Nat) (a : AS) (prio : Nat) (acc : List Call), (∀ c ∈ acc, DirOk c) → StepOk (rulesLoop ext f a prio acc) := by
  intro f
  induction f with
  | zero => intro a prio acc h; exact .rev h
  | succ f ih =>
    intro a prio acc h
    rw [rulesLoop_succ]
    split
    · exact .rev h
    · refine ite_ind _ (fun _ => .rev h) fun _ => ?_
      split
      · exact .rev h
      · rename_i hr
        exact ih _ _ _ (OptOk.cons (ruleOf_post _ _ _ _ _ _ hr) h)

theorem heuType_lt : ∀ (ws : List (List Nat)) (x : Nat) (inp : List Nat) (t : Nat) (r : List Nat), heuType ws x inp = some (t, r) → t < x + ws.length := by
  intro ws
  induction ws with
  | nil => intro x inp t r h; cases h
  | cons w ws ih =>
    intro x inp t r h
    obtain ⟨_, h⟩ | ⟨_, h⟩ := ite_cases h
    · cases h; exact Nat.lt_add_of_pos_right (Nat.succ_pos _)
    · exact Nat.lt_of_lt_of_eq (ih _ _ _ _ h) (Nat.succ_add_eq_add_succ ..)

theorem cInt_range (inp : List Nat) (v : Int) (r : List Nat) (h : cInt inp = some (v, r)) : i32 v := by
  unfold cInt at h
  extract_lets s w at h
  clear_value w
  split at h
  · cases h
  · rename_i hc
    cases h
    simp only [not_or, Int.not_lt] at hc
    exact ⟨hc.2.1, hc.2.2⟩

/-- the modifier and the bias that `domHeuPred` returns, also when it fails -/
def HeuRange (r : Int × List Nat × Nat × Int × Nat × List Nat) : Prop := r.2.2.1 ≤ 5 ∧ i32 r.2.2.2.1

/- The `if`s are taken off by `ite_ind`: `split` would simplify under all the `let`s of `domHeuPred` at every level. -/
theorem domHeuPred_ok (inp : List Nat) : HeuRange (domHeuPred inp) := by
  have i0 : i32 0 := ⟨by decide, by decide⟩
  have z : ∀ {x a p r}, HeuRange (x, a, 0, 0, p, r) := ⟨Nat.zero_le _, i0⟩
  unfold domHeuPred
  refine ite_ind _ (fun _ => z) fun _ => ite_ind _ (fun _ => z) fun _ => ite_ind _ (fun _ => z) fun _ => ?_
  generalize ht : heuType heuNames 0 _ = o
  cases o with
  | none => exact z
  | some tr =>
    have hty : tr.1 ≤ 5 := Nat.le_of_lt_succ (heuType_lt _ _ _ _ _ ht)
    have zt : ∀ {x a p r}, HeuRange (x, a, tr.1, 0, p, r) := ⟨hty, i0⟩
    refine ite_ind _ (fun _ => zt) fun _ => ?_
    generalize hb : cInt _ = o
    cases o with
    | none => exact zt
    | some br =>
      have zb : ∀ {x a p r}, HeuRange (x, a, tr.1, br.1, p, r) := ⟨hty, cInt_range _ _ _ hb⟩
      refine ite_ind _ (fun _ => zb) fun _ => ?_
      generalize cInt _ = o
      cases o with
      | none => exact zb
      | some pr => exact ite_ind _ (fun _ => zb) fun _ => zb

def TabsOk (t : Tabs) : Prop := ∀ m, t.atoms = some m → ∀ p ∈ m, atomOk p.2
def HeuOk (h : Heu) : Prop := atomOk h.cond ∧ h.type ≤ 5 ∧ i32 h.bias

/-- the invariant of reading the symbol table; the fourth component is a flag or the state of the stream -/
def SymOk {β : Type} (r : Tabs × List Call × List Heu × β) : Prop := TabsOk r.1 ∧ (∀ c ∈ r.2.1, DirOk c) ∧ ∀ h ∈ r.2.2.1, HeuOk h

theorem atom_lit {x : Nat} (h : atomOk x) : ∀ l ∈ [(x : Int)], litOk l := List.forall_mem_singleton.mpr h.pos

theorem addNode_atoms (t : Tabs) (n : List Nat) : (t.addNode n).1.atoms = t.atoms := by
  unfold Tabs.addNode; split <;> rfl

theorem recognise_ok (o : Opts) (t : Tabs) (atom : Nat) (name : List Nat) (doms : List Heu) (ha : atomOk atom) (ht : TabsOk t)
    (hd : ∀ h ∈ doms, HeuOk h) : SymOk (recognise o t atom name doms) := by
  unfold recognise
  extract_lets ep n0 n1 hp
  have hhp : HeuRange hp := by
    show HeuRange (if _ then _ else _)
    exact ite_ind _ (fun _ => domHeuPred_ok _) fun _ => ⟨Nat.zero_le _, by decide, by decide⟩
  refine ite_ind _ (fun _ => ⟨?_, List.forall_mem_singleton.mpr ⟨atom_lit ha, rfl⟩, hd⟩) fun _ =>
    ite_ind _ (fun _ => ⟨ht, List.forall_mem_nil _, forall_mem_snoc hd ⟨ha, hhp⟩⟩) fun _ => ⟨ht, List.forall_mem_nil _, hd⟩
  show TabsOk n1.1
  unfold TabsOk
  rw [addNode_atoms, addNode_atoms]
  exact ht

theorem record_ok (r : Tabs × List Call × List Heu × Bool) (atom : Nat) (name : List Nat) (ha : atomOk atom) (hr : SymOk r) :
    TabsOk (record r atom name).1 ∧ (∀ c ∈ (record r atom name).2.1, DirOk c) ∧ (∀ h ∈ (record r atom name).2.2, HeuOk h) := by
  obtain ⟨h1, h2, h3⟩ := hr
  have hout : ∀ c ∈ r.2.1 ++ (if !r.2.2.2 then [Call.output name [(atom : Int)]] else []), DirOk c := by
    refine List.forall_mem_append.mpr ⟨h2, ?_⟩
    split
    · exact List.forall_mem_singleton.mpr ⟨atom_lit ha, rfl⟩
    · exact List.forall_mem_nil _
  unfold record
  extract_lets out
  split
  · rename_i m hm
    refine ⟨fun m' hm' p hp => ?_, hout, h3⟩
    cases hm'
    split at hp
    · exact h1 m hm p hp
    · exact forall_mem_snoc (h1 m hm) ha p hp
  · exact ⟨h1, hout, h3⟩

theorem posAtom_ok (a : AS) (x : Nat) (a1 : AS) (h : posMax Gen.atomMax a = .ok (x, a1)) (h0 : x ≠ 0) : atomOk x :=
  ⟨Nat.pos_of_ne_zero h0, posMax_post _ _ _ _ h⟩

attribute [local irreducible] symbol nameLoop posMax in
theorem symbolsLoop_succ (o : Opts) (f : Nat) (a : AS) (t : Tabs) (acc : List Call) (d : List Heu) : symbolsLoop o (f + 1) a t acc d =
    (match posMax Gen.atomMax a with
     | .error l => (t, acc, d, .error l)
     | .ok (x, a1) =>
       if x = 0 then (t, acc, d, .ok a1) else
       match nameLoop ((a1.get.2).rest.length + 1) a1.get.2 [] with
       | .error l => (t, acc, d, .error l)
       | .ok (nm, a3) => symbolsLoop o f a3 (symbol o t x nm d).1 (acc ++ (symbol o t x nm d).2.1) (symbol o t x nm d).2.2) := rfl

theorem symbolsLoop_ok (o : Opts) : ∀ (f : Nat) (a : AS) (t : Tabs) (acc : List Call) (d : List Heu),
    TabsOk t → (∀ c ∈ acc, DirOk c) → (∀ h ∈ d, HeuOk h) → SymOk (symbolsLoop o f a t acc d) := by
  intro f
  induction f with
  | zero => intro a t acc d h1 h2 h3; exact ⟨h1, h2, h3⟩
  | succ f ih =>
    intro a t acc d h1 h2 h3
    rw [symbolsLoop_succ]
    split
    · exact ⟨h1, h2, h3⟩
    · rename_i x a1 hp
      refine ite_ind _ (fun _ => ⟨h1, h2, h3⟩) fun h0 => ?_
      split
      · exact ⟨h1, h2, h3⟩
      · rename_i nm a3 _
        have hx := posAtom_ok _ _ _ hp h0
        have hs := record_ok _ x nm hx (recognise_ok o t x nm d hx h1 h3)
        exact ih a3 _ _ _ hs.1 (List.forall_mem_append.mpr ⟨h2, hs.2.1⟩) hs.2.2

theorem findAtom_ok (t : Tabs) (ht : TabsOk t) (n : List Nat) (h : t.findAtom n ≠ 0) : atomOk (t.findAtom n) := by
  unfold Tabs.findAtom at h ⊢
  split at h
  · rename_i m hm
    cases hf : m.find? (fun p => p.1 == n) with
    | none => simp [hf] at h
    | some p => exact ht m hm p (List.mem_of_find?_eq_some hf)
  · exact absurd rfl h

theorem symbols_ok (o : Opts) (inc : Bool) (t : Tabs) (a : AS) (ht : TabsOk t) :
    TabsOk (symbols o inc t a).1 ∧ StepOk (symbols o inc t a).2 := by
  have ht0 : TabsOk (if (o.cHeu && t.atoms.isNone) = true then { t with atoms := some [] } else t) := by
    split
    · intro m hm; cases hm; exact List.forall_mem_nil _
    · exact ht
  have hl := symbolsLoop_ok o (a.rest.length + 1) a _ [] [] ht0 (List.forall_mem_nil _) (List.forall_mem_nil _)
  unfold symbols
  simp only
  generalize symbolsLoop o _ a _ [] [] = r at hl ⊢
  obtain ⟨h1, h2, h3⟩ := hl
  split
  · exact ⟨h1, h2⟩
  · refine ⟨?_, List.forall_mem_append.mpr ⟨h2, fun c hc => ?_⟩⟩
    · split
      · exact h1
      · intro m hm; cases hm
    · obtain ⟨h, hh, hc⟩ := List.mem_filterMap.mp hc
      split at hc
      · rename_i hx
        cases hc
        have hho := h3 h hh
        exact ⟨⟨findAtom_ok _ h1 _ (bne_iff_ne.mp hx), hho.2.1, hho.2.2, atom_lit hho.1⟩, rfl⟩
      · cases hc

attribute [local irreducible] posMax in
theorem computeLoop_succ (val : Bool) (f : Nat) (a : AS) (acc : List Call) : computeLoop val (f + 1) a acc =
    (match posMax Gen.atomMax a with
     | .error l => (acc.reverse, .error l)
     | .ok (x, a1) => if x = 0 then (acc.reverse, .ok a1) else computeLoop val f a1 (.rule 0 [] [if val then -(x : Int) else (x : Int)] :: acc)) := rfl
theorem computeLoop_zero (val : Bool) (a : AS) (acc : List Call) : computeLoop val 0 a acc = (acc.reverse, .error a.line) := rfl
attribute [local irreducible] posMax in
theorem extLoop_succ (f : Nat) (a : AS) (acc : List Call) : extLoop (f + 1) a acc =
    (match posMax Gen.atomMax a with
     | .error l => (acc.reverse, .error l)
     | .ok (x, a1) => if x = 0 then (acc.reverse, .ok a1) else extLoop f a1 (.external x 0 :: acc)) := rfl
theorem extLoop_zero (a : AS) (acc : List Call) : extLoop 0 a acc = (acc.reverse, .error a.line) := rfl

/-- `computeLoop` and `extLoop`: atoms up to a `0`, `mk x` delivered for each atom `x` -/
theorem atomsTo0_ok {mk : Nat → Call} {loop : Nat → AS → List Call → List Call × Except Nat AS}
    (h0 : ∀ a acc, loop 0 a acc = (acc.reverse, .error a.line))
    (hs : ∀ f a acc, loop (f + 1) a acc = (match posMax Gen.atomMax a with
       | .error l => (acc.reverse, .error l)
       | .ok (x, a1) => if x = 0 then (acc.reverse, .ok a1) else loop f a1 (mk x :: acc)))
    (hmk : ∀ x, atomOk x → DirOk (mk x)) : ∀ (f : Nat) (a : AS) (acc : List Call), (∀ c ∈ acc, DirOk c) → StepOk (loop f a acc) := by
  intro f
  induction f with
  | zero => intro a acc h; rw [h0]; exact .rev h
  | succ f ih =>
    intro a acc h
    rw [hs]
    split
    · exact .rev h
    · rename_i x a1 hp
      exact ite_ind _ (fun _ => .rev h) fun hx => ih a1 _ (List.forall_mem_cons.mpr ⟨hmk x (posAtom_ok _ _ _ hp hx), h⟩)

theorem computeLoop_ok (val : Bool) : ∀ (f : Nat) (a : AS) (acc : List Call), (∀ c ∈ acc, DirOk c) → StepOk (computeLoop val f a acc) :=
  atomsTo0_ok (mk := fun x => .rule 0 [] [if val then -(x : Int) else x]) (computeLoop_zero val) (computeLoop_succ val) fun _ hx =>
    ⟨⟨Nat.zero_le _, List.forall_mem_nil _, List.forall_mem_singleton.mpr (ite_ind _ (fun _ => hx.neg) fun _ => hx.pos)⟩, rfl⟩

theorem compute_ok (tok : List Nat) (val : Bool) (a : AS) : StepOk (compute tok val a) :=
  ite_ind _ (fun _ => List.forall_mem_nil _) fun _ => ite_ind _ (fun _ => List.forall_mem_nil _) fun _ => computeLoop_ok val _ _ [] (List.forall_mem_nil _)

theorem extLoop_ok : ∀ (f : Nat) (a : AS) (acc : List Call), (∀ c ∈ acc, DirOk c) → StepOk (extLoop f a acc) :=
  atomsTo0_ok (mk := fun x => .external x 0) extLoop_zero extLoop_succ fun _ hx => ⟨⟨hx, Nat.zero_le _⟩, rfl⟩

theorem extra_ok (a : AS) : StepOk (extra a) := by
  unfold extra
  simp only
  generalize hr : (if (a.skipWs.matchTok [69]).1 = true then _ else _) = r
  have h1 : StepOk r := hr ▸ ite_ind (Q := StepOk) _ (fun _ => extLoop_ok _ _ [] (List.forall_mem_nil _)) fun _ => List.forall_mem_nil _
  split
  · exact h1
  · split <;> exact h1

attribute [local irreducible] rulesLoop symbols compute extra in
theorem step_ok (o : Opts) (inc : Bool) (t : Tabs) (a : AS) (ht : TabsOk t) :
    TabsOk (SmodelsSym.step o inc t a).1 ∧ StepOk (SmodelsSym.step o inc t a).2 := by
  have hr := rulesLoop_ok o.ext (a.rest.length + 1) a 0 [] (List.forall_mem_nil _)
  unfold SmodelsSym.step
  simp only
  cases (rulesLoop o.ext (a.rest.length + 1) a 0 []).2 with
  | error l => exact ⟨ht, hr⟩
  | ok a1 =>
    have hs := symbols_ok o inc t a1 ht
    have h2 := List.forall_mem_append.mpr ⟨hr, hs.2⟩
    simp only
    cases (symbols o inc t a1).2.2 with
    | error l => exact ⟨hs.1, h2⟩
    | ok a2 =>
      have h3 := List.forall_mem_append.mpr ⟨h2, compute_ok [66, 43] true a2⟩
      simp only
      cases (compute [66, 43] true a2).2 with
      | error l => exact ⟨hs.1, h3⟩
      | ok a3 =>
        have h4 := List.forall_mem_append.mpr ⟨h3, compute_ok [66, 45] false a3⟩
        simp only
        cases (compute [66, 45] false a3).2 with
        | error l => exact ⟨hs.1, h4⟩
        | ok a4 => exact ⟨hs.1, List.forall_mem_append.mpr ⟨h4, extra_ok a4⟩⟩

attribute [local irreducible] SmodelsSym.step in
theorem smodelsStepsLoop_good (o : Opts) (f : Nat) (inc : Bool) (t : Tabs) (a : AS) (acc : List Call) : TabsOk t → Between acc →
    Good (SmodelsSym.stepsLoop o f inc t a acc).calls :=
  rounds_good (steps := fun f => SmodelsSym.stepsLoop o f inc) (body := SmodelsSym.step o inc) (fun _ _ _ => rfl) (fun _ _ _ _ => rfl) (step_ok o inc) f t a acc

/-- **C04 (smodels: structure and arguments)**: for EVERY byte string and every combination of `claspExt`, `convertEdges`,
    `convertHeuristic`, `dropConverted`, the calls the smodels reader delivers are well structured and carry only admissible
    arguments (see `C04_contract_aspif`); in particular rule-body weights are non-negative, external values are in 0..3 and
    heuristic modifiers in 0..5. -/
theorem C04_contract_smodels (o : Opts) (input : List Nat) : Good (SmodelsSym.read o input).calls := by
  unfold SmodelsSym.read
  simp only
  split
  · exact smodelsStepsLoop_good o _ _ _ _ _ (fun _ hm => nomatch hm) (Between.init _)
  · exact Good.nil

theorem C04_structure_smodels (o : Opts) (input : List Nat) : ∃ st, run 0 (SmodelsSym.read o input).calls = some st := (C04_contract_smodels o input).1
end PotasscoVerif.C04
