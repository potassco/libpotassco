/-
  C10 (continued) — comment lines, output terms (names with nested argument lists, quoted strings with escapes) and `#output`.
-/
import PotasscoVerif.Props.C10c
namespace PotasscoVerif.C10
open PotasscoVerif PotasscoVerif.CharStream PotasscoVerif.TextIn PotasscoVerif.Decimal PotasscoVerif.AspifOut
open PotasscoVerif.BufferedStream (isDigit isWs I64MAX)
open PotasscoVerif.AspifIn (skipLine skipLineF)

inductive Eol where | lf | cr | crlf
deriving DecidableEq, Repr

def Eol.text : Eol → List Nat
  | .lf => [10]
  | .cr => [13]
  | .crlf => [13, 10]

theorem get_char (a : AS) (c : Nat) (r : List Nat) (h : a.rest = c :: r) (h0 : c ≠ 0) (h13 : c ≠ 13) :
    a.get.1 = c ∧ a.get.2.rest = r := by
  by_cases h10 : c = 10
  · subst h10; rw [AS.get_lf h]; exact ⟨rfl, rfl⟩
  · rw [AS.get_plain h h0 h13 h10]; exact ⟨rfl, rfl⟩

/-- a line end (LF, CR not followed by LF, or CRLF) is extracted as one LF -/
theorem get_eol (a : AS) (e : Eol) (r : List Nat) (hcr : e = .cr → ∀ t, r ≠ 10 :: t) (hr : a.rest = e.text ++ r) :
    (a.peek == 0) = false ∧ a.get = (10, { rest := r, line := a.line + 1, canUnget := true }) := by
  refine ⟨by unfold AS.peek; rw [hr]; cases e <;> rfl, ?_⟩
  cases e with
  | lf => exact AS.get_lf hr
  | crlf => exact AS.get_cr hr
  | cr =>
    have h := AS.get_cr (r := r) hr
    rwa [if_neg] at h
    rcases r with _ | ⟨y, t⟩
    · decide
    · exact fun h => hcr rfl t (congrArg (· :: t) h)

theorem skipLineF_spec (body : List Nat) (e : Eol) (r : List Nat) (hb : ∀ x ∈ body, x ≠ 0 ∧ x ≠ 10 ∧ x ≠ 13)
    (hcr : e = .cr → ∀ t, r ≠ 10 :: t) (f : Nat) (hf : body.length < f) (a : AS) (hr : a.rest = body ++ (e.text ++ r)) :
    (skipLineF f a).rest = r := by
  induction f generalizing body a with
  | zero => exact absurd hf (Nat.not_lt_zero _)
  | succ f ih =>
    cases body with
    | nil =>
      obtain ⟨hp, hg⟩ := get_eol a e r hcr hr
      simp only [skipLineF, hp, Bool.false_eq_true, ↓reduceIte, hg, BEq.rfl]
    | cons x b =>
      obtain ⟨⟨h0, h10, h13⟩, hb'⟩ := List.forall_mem_cons.1 hb
      have hg := AS.get_plain hr h0 h13 h10
      have hx0 : (x == 0) = false := beq_eq_false_iff_ne.2 h0
      have hx10 : (x == 10) = false := beq_eq_false_iff_ne.2 h10
      simp only [skipLineF, peek_cons hr, hx0, Bool.false_eq_true, ↓reduceIte, hg, hx10]
      exact ih b hb' (Nat.lt_of_succ_lt_succ hf) _ rfl

/-- `%`, anything up to the line end (LF, CR or CRLF), filler -/
structure CommentS where
  body    : List Nat
  eol     : Eol
  wsAfter : List Nat

def CommentS.text (c : CommentS) : List Nat := 37 :: (c.body ++ (c.eol.text ++ c.wsAfter))
def CommentS.ok (c : CommentS) : Prop :=
  (∀ x ∈ c.body, x ≠ 0 ∧ x ≠ 10 ∧ x ≠ 13) ∧ Filler c.wsAfter ∧ (c.eol = .cr → ∀ t, c.wsAfter ≠ 10 :: t)

theorem skipLine_comment (a : AS) (c : CommentS) (k : List Nat) (hok : c.ok) (hk : NWS k) (hr : a.rest = c.text ++ k) :
    (skipLine a).rest = c.wsAfter ++ k := by
  unfold skipLine
  apply skipLineF_spec (37 :: c.body) c.eol (c.wsAfter ++ k)
  · intro x hx
    rcases List.mem_cons.1 hx with rfl | h
    · decide
    · exact hok.1 x h
  · -- behind a lone CR no LF follows: the filler does not start with one, and the continuation is no blank
    intro he t h
    cases hw : c.wsAfter with
    | nil => rw [hw] at h; exact absurd (hk 10 t h) (by decide)
    | cons w ws' => rw [hw] at h; cases h; exact hok.2.2 he ws' hw
  · rw [hr, CommentS.text]; simp only [List.length_cons, List.length_append]; omega
  · rw [hr, CommentS.text]; simp only [List.cons_append, List.append_assoc]

theorem stmtLoop_comment (inc : Bool) (f : Nat) (a : AS) (acc : List Call) (c : CommentS) (k : List Nat) (hok : c.ok) (hk : NWS k)
    (ws : List Nat) (hws : Filler ws) (hr : a.rest = ws ++ (c.text ++ k)) :
    ∃ a', stmtLoop inc (f + 1) a acc = stmtLoop inc f a' acc ∧ a'.rest = c.wsAfter ++ k := by
  have hs : a.skipWs.rest = c.text ++ k := skipWs_spec a ws _ hr hws (nws_cons (by decide) _)
  refine ⟨skipLine a.skipWs, ?_, skipLine_comment a.skipWs c k hok hk hs⟩
  simp only [stmtLoop, peekWs_cons hs]; rfl

inductive StrUnit where
  | ch (c : Nat)
  | esc (d : Nat)
deriving DecidableEq, Repr

def StrUnit.text : StrUnit → List Nat
  | .ch c => [c]
  | .esc d => [92, d]
def StrUnit.ok : StrUnit → Prop
  | .ch c => c ≠ 0 ∧ c ≠ 34 ∧ c ≠ 92 ∧ c ≠ 13
  | .esc d => d ≠ 0 ∧ d ≠ 13

def strBody : List StrUnit → List Nat
  | [] => []
  | u :: r => u.text ++ strBody r

theorem strLoop_spec (us : List StrUnit) (hok : ∀ u ∈ us, u.ok) (r : List Nat) (f : Nat) (hf : (strBody us).length < f) (a : AS) (acc : List Nat)
    (hr : a.rest = strBody us ++ (34 :: r)) :
    (strLoop f a false acc).1 = acc ++ strBody us ∧ (strLoop f a false acc).2.rest = 34 :: r := by
  induction us generalizing f a acc with
  | nil =>
    cases f with
    | zero => exact absurd hf (Nat.not_lt_zero _)
    | succ f => simp [strLoop, peek_cons hr, strBody, hr]
  | cons u us ih =>
    obtain ⟨hu, hrest⟩ := List.forall_mem_cons.1 hok
    cases f with
    | zero => exact absurd hf (Nat.not_lt_zero _)
    | succ f =>
      cases u with
      | ch c =>
        obtain ⟨h0, h34, h92, h13⟩ := hu
        simp only [strBody, StrUnit.text, List.cons_append, List.nil_append, List.length_cons] at hr hf ⊢
        obtain ⟨g1, g2⟩ := get_char a c _ hr h0 h13
        have hc : (c != 0 && (c != 34 || false)) = true := by simp [h0, h34]
        have hq : (!false && c == 92) = false := by simp [h92]
        have := ih hrest f (Nat.lt_of_succ_lt_succ hf) a.get.2 (acc ++ [c]) g2
        simp only [strLoop, peek_cons hr, hc, ↓reduceIte, g1, hq]
        rw [this.1, this.2, List.append_assoc]; exact ⟨rfl, rfl⟩
      | esc d =>
        obtain ⟨h0, h13⟩ := hu
        simp only [strBody, StrUnit.text, List.cons_append, List.nil_append, List.length_cons] at hr hf ⊢
        cases f with
        | zero => omega
        | succ f =>
          -- the backslash switches the quoted flag on, the escaped character switches it off again
          obtain ⟨g1, g2⟩ := get_char a 92 _ hr (by decide) (by decide)
          obtain ⟨g1', g2'⟩ := get_char a.get.2 d _ g2 h0 h13
          have hc' : (d != 0 && (d != 34 || true)) = true := by simp [h0]
          have := ih hrest f (by omega) a.get.2.get.2 (acc ++ [92] ++ [d]) g2'
          simp only [strLoop, peek_cons hr, show ((92 : Nat) != 0 && ((92 : Nat) != 34 || false)) = true from rfl, ↓reduceIte, g1,
            show (!false && (92 : Nat) == 92) = true from rfl, peek_cons g2, hc', g1', Bool.not_true, Bool.false_and]
          rw [this.1, this.2, List.append_assoc, List.append_assoc]; exact ⟨rfl, rfl⟩

/-- The first character must not be a blank: the reader skips blanks right after the opening quote. -/
structure StrS where
  units   : List StrUnit
  wsAfter : List Nat

def StrS.text (s : StrS) : List Nat := 34 :: (strBody s.units ++ (34 :: s.wsAfter))
def StrS.sym (s : StrS) : List Nat := 34 :: (strBody s.units ++ [34])
def StrS.ok (s : StrS) : Prop := (∀ u ∈ s.units, u.ok) ∧ Filler s.wsAfter ∧ NWS (strBody s.units)

theorem str_spec (sym : List Nat) (a : AS) (s : StrS) (k : List Nat) (hok : s.ok) (hk : NWS k) (hr : a.rest = s.text ++ k) :
    ∃ a', TextIn.str sym a = .ok (sym ++ s.sym, a') ∧ a'.rest = k := by
  obtain ⟨hu, hw, hnb⟩ := hok
  have hnw : NWS (strBody s.units ++ (34 :: (s.wsAfter ++ k))) := by
    cases hb : strBody s.units with
    | nil => exact nws_cons (by decide) _
    | cons x t => exact nws_cons (hnb _ _ hb) _
  simp only [StrS.text, List.cons_append, List.append_assoc] at hr
  obtain ⟨a1, e1, r1⟩ := C10_tok a [34] [] (strBody s.units ++ (34 :: (s.wsAfter ++ k))) true hr Filler.nil hnw
  have hl := strLoop_spec s.units hu (s.wsAfter ++ k) (a1.rest.length + 1) (by rw [r1, List.length_append]; omega) a1 (sym ++ [34]) r1
  obtain ⟨a2, e2, r2⟩ := C10_tok (strLoop (a1.rest.length + 1) a1 false (sym ++ [34])).2 [34] s.wsAfter k true hl.2 hw hk
  exact ⟨a2, by simp only [TextIn.str, e1, e2, hl.1, StrS.sym, List.append_assoc, List.cons_append, List.nil_append], r2⟩

inductive ArgTok where
  | ch (c : Nat) (ws : List Nat)
  | str (s : StrS)

def ArgTok.text : ArgTok → List Nat
  | .ch c ws => c :: ws
  | .str s => s.text
def ArgTok.sym : ArgTok → List Nat
  | .ch c _ => [c]
  | .str s => s.sym
def ArgTok.ok : ArgTok → Prop
  | .ch c ws => c ≠ 0 ∧ c ≠ 34 ∧ isWs c = false ∧ Filler ws
  | .str s => s.ok

/-- parenthesis depth behind the token; `none` = the token would end the argument (`)` or `,` at depth 0) -/
def ArgTok.depth (p : Nat) : ArgTok → Option Nat
  | .ch c _ => if c = 41 then (if p = 0 then none else some (p - 1)) else if c = 44 then (if p = 0 then none else some p)
      else if c = 40 then some (p + 1) else some p
  | .str _ => some p

def argText : List ArgTok → List Nat
  | [] => []
  | t :: r => t.text ++ argText r
def argSym : List ArgTok → List Nat
  | [] => []
  | t :: r => t.sym ++ argSym r

def ArgOk : Nat → Nat → List ArgTok → Prop
  | p, q, [] => p = q
  | p, q, t :: r => t.ok ∧ ∃ p', t.depth p = some p' ∧ ArgOk p' q r

theorem argText_nws (ts : List ArgTok) (p q : Nat) (hok : ArgOk p q ts) (k : List Nat) (hk : NWS k) : NWS (argText ts ++ k) := by
  cases ts with
  | nil => exact hk
  | cons t r =>
    cases t with
    | ch x ws => exact nws_cons hok.1.2.2.1 _
    | str s => exact nws_cons (by decide) _

theorem argText_length (ts : List ArgTok) : ts.length ≤ (argText ts).length := by
  induction ts with
  | nil => exact Nat.le_refl _
  | cons t r ih => cases t <;> simp only [argText, ArgTok.text, StrS.text, List.length_append, List.length_cons] <;> omega

theorem argLoop_ch (f : Nat) (a : AS) (p p' : Nat) (sym : List Nat) (c : Nat) (ws : List Nat) (h0 : c ≠ 0) (h34 : c ≠ 34)
    (hp : a.peek = c) (hg : a.get.1 = c) (hd : (ArgTok.ch c ws).depth p = some p') :
    argLoop (f + 1) a (p : Int) sym = argLoop f a.get.2.skipWs (p' : Int) (sym ++ [c]) := by
  have hc0 : (c == 0) = false := beq_eq_false_iff_ne.2 h0
  have hc34 : (c == 34) = false := beq_eq_false_iff_ne.2 h34
  simp only [ArgTok.depth] at hd
  by_cases h41 : c = 41
  · subst h41
    rw [if_pos rfl] at hd
    by_cases hp0 : p = 0
    · rw [if_pos hp0] at hd; cases hd
    · rw [if_neg hp0, Option.some.injEq] at hd
      have hlt : ¬ ((p' : Int) < 0) := by omega
      have hp' : ((p : Int) - 1) = (p' : Int) := by omega
      simp only [argLoop, hp, hc0, hc34, Bool.false_eq_true, ↓reduceIte, BEq.rfl, Bool.true_and, decide_eq_true_eq, hlt, hp',
        show ((41 : Nat) == 44) = false from rfl, Bool.false_and, show ((41 : Nat) == 40) = false from rfl, Int.add_zero, hg]
  · have hc41 : (c == 41) = false := beq_eq_false_iff_ne.2 h41
    rw [if_neg h41] at hd
    by_cases h44 : c = 44
    · subst h44
      rw [if_pos rfl] at hd
      by_cases hp0 : p = 0
      · rw [if_pos hp0] at hd; cases hd
      · rw [if_neg hp0, Option.some.injEq] at hd; subst hd
        have hpz : ((p : Int) == 0) = false := by simp; omega
        simp only [argLoop, hp, hc0, hc34, hc41, Bool.false_eq_true, ↓reduceIte, Bool.false_and, BEq.rfl, Bool.true_and, hpz,
          show ((44 : Nat) == 40) = false from rfl, Int.add_zero, hg]
    · have hc44 : (c == 44) = false := beq_eq_false_iff_ne.2 h44
      rw [if_neg h44] at hd
      by_cases h40 : c = 40
      · subst h40
        rw [if_pos rfl, Option.some.injEq] at hd; subst hd
        simp only [argLoop, hp, hc0, hc34, hc41, hc44, Bool.false_eq_true, ↓reduceIte, Bool.false_and, BEq.rfl, hg, Int.natCast_add, Int.cast_ofNat_Int]
      · have hc40 : (c == 40) = false := beq_eq_false_iff_ne.2 h40
        rw [if_neg h40, Option.some.injEq] at hd; subst hd
        simp only [argLoop, hp, hc0, hc34, hc41, hc44, hc40, Bool.false_eq_true, ↓reduceIte, Bool.false_and, Int.add_zero, hg]

/-- `matchAtomArg`: the tokens of one argument are copied (fillers dropped) up to the `,` or `)` at depth 0 -/
theorem argLoop_spec (ts : List ArgTok) (p : Nat) (hok : ArgOk p 0 ts) (k : List Nat) (hk : ∃ t, k = 44 :: t ∨ k = 41 :: t)
    (f : Nat) (hf : ts.length < f) (a : AS) (sym : List Nat) (hr : a.rest = argText ts ++ k) :
    ∃ a', argLoop f a (p : Int) sym = .ok (sym ++ argSym ts, a') ∧ a'.rest = k := by
  have hknw : NWS k := by obtain ⟨t, rfl | rfl⟩ := hk <;> exact nws_cons (by decide) _
  induction f generalizing ts p a sym with
  | zero => exact absurd hf (Nat.not_lt_zero _)
  | succ f ih =>
    cases ts with
    | nil =>
      have hp0 : p = 0 := hok
      subst hp0
      refine ⟨a, ?_, hr⟩
      obtain ⟨t, rfl | rfl⟩ := hk
      · simp [argLoop, peek_cons hr, argSym]
      · simp [argLoop, peek_cons hr, argSym]
    | cons t r =>
      obtain ⟨ht, p', hd, hrest⟩ := hok
      have hnw := argText_nws r p' 0 hrest k hknw
      have hf' : r.length < f := Nat.lt_of_succ_lt_succ hf
      cases t with
      | str s =>
        cases hd
        simp only [argText, ArgTok.text, List.append_assoc] at hr
        obtain ⟨a1, e1, r1⟩ := str_spec sym a s _ ht hnw hr
        obtain ⟨a2, e2, r2⟩ := ih r p hrest hf' a1 (sym ++ s.sym) r1
        refine ⟨a2, ?_, r2⟩
        simp only [argLoop, peek_cons hr, show ((34 : Nat) == 0) = false from rfl, Bool.false_eq_true, ↓reduceIte, BEq.rfl, e1, e2, argSym,
          ArgTok.sym, List.append_assoc]
      | ch c ws =>
        obtain ⟨h0, h34, hws, hfl⟩ := ht
        simp only [argText, ArgTok.text, List.cons_append, List.append_assoc] at hr
        obtain ⟨g1, g2⟩ := get_char a c _ hr h0 (by rintro rfl; cases hws)
        obtain ⟨a2, e2, r2⟩ := ih r p' hrest hf' a.get.2.skipWs (sym ++ [c]) (skipWs_spec a.get.2 ws _ g2 hfl hnw)
        exact ⟨a2, by rw [argLoop_ch f a p p' sym c ws h0 h34 (peek_cons hr) g1 hd, e2, argSym, ArgTok.sym, List.append_assoc], r2⟩

def moreText : List (List Nat × List ArgTok) → List Nat
  | [] => []
  | (w, ts) :: r => 44 :: (w ++ (argText ts ++ moreText r))
def moreSym : List (List Nat × List ArgTok) → List Nat
  | [] => []
  | (_, ts) :: r => 44 :: (argSym ts ++ moreSym r)

theorem moreText_nws (more : List (List Nat × List ArgTok)) (k : List Nat) : NWS (moreText more ++ (41 :: k)) := by
  cases more <;> exact nws_cons (by decide) _

theorem moreText_length (more : List (List Nat × List ArgTok)) : more.length ≤ (moreText more).length := by
  induction more with
  | nil => exact Nat.le_refl _
  | cons x r ih => simp only [moreText, List.length_cons, List.length_append]; omega

theorem argsLoop_spec (more : List (List Nat × List ArgTok)) (hm : ∀ x ∈ more, Filler x.1 ∧ ArgOk 0 0 x.2) (ts : List ArgTok) (hts : ArgOk 0 0 ts)
    (k : List Nat) (f : Nat) (hf : more.length < f) (a : AS) (sym : List Nat) (hr : a.rest = argText ts ++ (moreText more ++ (41 :: k))) :
    ∃ a', argsLoop f a sym = .ok (sym ++ argSym ts ++ moreSym more, a') ∧ a'.rest = 41 :: k := by
  induction f generalizing more ts a sym with
  | zero => exact absurd hf (Nat.not_lt_zero _)
  | succ f ih =>
    obtain ⟨a1, e1, r1⟩ : ∃ a1, argLoop (a.rest.length + 1) a (0 : Int) sym = .ok (sym ++ argSym ts, a1) ∧ a1.rest = moreText more ++ (41 :: k) :=
      argLoop_spec ts 0 hts _ (by cases more; exact ⟨k, Or.inr rfl⟩; exact ⟨_, Or.inl rfl⟩) _
        (by rw [hr, List.length_append]; have := argText_length ts; omega) a sym hr
    cases more with
    | nil =>
      obtain ⟨a2, e2, r2⟩ := tok_absent a1 [44] r1 rfl
      exact ⟨a2, by simp only [argsLoop, e1, e2, moreSym, List.append_nil], r2⟩
    | cons x r =>
      obtain ⟨w, ts'⟩ := x
      obtain ⟨hx, hm'⟩ := List.forall_mem_cons.1 hm
      simp only [moreText, List.cons_append, List.append_assoc] at r1
      obtain ⟨a2, e2, r2⟩ := C10_tok a1 [44] w _ false r1 hx.1 (argText_nws ts' 0 0 hx.2 _ (moreText_nws r k))
      obtain ⟨a3, e3, r3⟩ := ih r hm' ts' hx.2 (Nat.lt_of_succ_lt_succ hf) a2 (sym ++ argSym ts ++ [44]) r2
      exact ⟨a3, by simp only [argsLoop, e1, e2, e3, moreSym]; simp only [List.append_assoc, List.cons_append, List.nil_append], r3⟩

structure ArgsS where
  wsOpen  : List Nat
  first   : List ArgTok
  more    : List (List Nat × List ArgTok)
  wsClose : List Nat

def ArgsS.text (g : ArgsS) : List Nat := 40 :: (g.wsOpen ++ (argText g.first ++ (moreText g.more ++ (41 :: g.wsClose))))
def ArgsS.sym (g : ArgsS) : List Nat := 40 :: (argSym g.first ++ (moreSym g.more ++ [41]))
def ArgsS.ok (g : ArgsS) : Prop := Filler g.wsOpen ∧ ArgOk 0 0 g.first ∧ (∀ x ∈ g.more, Filler x.1 ∧ ArgOk 0 0 x.2) ∧ Filler g.wsClose

def argsTextO : Option ArgsS → List Nat
  | none => []
  | some g => g.text
def argsSymO : Option ArgsS → List Nat
  | none => []
  | some g => g.sym
def argsOkO : Option ArgsS → Prop
  | none => True
  | some g => g.ok

def isNameCh (c : Nat) : Bool := isAlnum c || c == 95

theorem isNameCh_iff {x : Nat} : isNameCh x = true ↔ ((97 ≤ x ∧ x ≤ 122 ∨ 65 ≤ x ∧ x ≤ 90) ∨ 48 ≤ x ∧ x ≤ 57) ∨ x = 95 := by
  simp only [isNameCh, isAlnum, Bool.or_eq_true, isLower_iff, isDigit_iff, Bool.and_eq_true, decide_eq_true_iff, beq_iff_eq]

theorem nameCh_plain (x : Nat) (h : isNameCh x = true) : x ≠ 0 ∧ x ≠ 13 ∧ x ≠ 10 := by
  have := isNameCh_iff.1 h; omega

theorem isWs_not_name {x : Nat} (h : isWs x = true) : isNameCh x = false := by
  have := isWs_iff.1 h
  rw [Bool.eq_false_iff, Ne, isNameCh_iff]; omega

inductive TermS where
  | fn (c : Nat) (cs : List Nat) (wsName : List Nat) (args : Option ArgsS)   -- name = c :: cs
  | str (s : StrS)

def TermS.text : TermS → List Nat
  | .fn c cs w g => c :: (cs ++ (w ++ argsTextO g))
  | .str s => s.text
def TermS.sym : TermS → List Nat
  | .fn c cs _ g => c :: (cs ++ argsSymO g)
  | .str s => s.sym
def TermS.ok : TermS → Prop
  | .fn c cs w g => (isLower c = true ∨ c = 95) ∧ (∀ x ∈ cs, isNameCh x = true) ∧ Filler w ∧ argsOkO g
  | .str s => s.ok

theorem nameLoop_spec (cs : List Nat) (hcs : ∀ x ∈ cs, isNameCh x = true) (c : Nat) (hc : c ≠ 0 ∧ c ≠ 13 ∧ c ≠ 10) (r : List Nat)
    (hrn : isNameCh (r.headD 0) = false) (f : Nat) (hf : cs.length < f) (a : AS) (acc : List Nat) (hr : a.rest = c :: (cs ++ r)) :
    (nameLoop f a acc).1 = acc ++ c :: cs ∧ (nameLoop f a acc).2.rest = r := by
  induction f generalizing cs c a acc with
  | zero => exact absurd hf (Nat.not_lt_zero _)
  | succ f ih =>
    have hg := AS.get_plain hr hc.1 hc.2.1 hc.2.2
    cases cs with
    | nil =>
      have hn : (isAlnum (r.headD 0) || r.headD 0 == 95) = false := hrn
      simp only [nameLoop, hg, AS.peek, List.nil_append, hn]
      exact ⟨rfl, rfl⟩
    | cons x xs =>
      obtain ⟨hx, hcs'⟩ := List.forall_mem_cons.1 hcs
      have hn : (isAlnum x || x == 95) = true := hx
      have := ih xs hcs' x (nameCh_plain x hx) (Nat.lt_of_succ_lt_succ hf)
        { rest := x :: (xs ++ r), line := a.line, canUnget := true } (acc ++ [c]) rfl
      simp only [nameLoop, hg, AS.peek, List.cons_append, List.headD_cons, hn, ↓reduceIte]
      rw [this.1, this.2, List.append_assoc]; exact ⟨rfl, rfl⟩

/-- `R`: an opening parenthesis or the continuation -/
theorem name_spec (a : AS) (c : Nat) (cs w R : List Nat) (hc : c ≠ 0 ∧ c ≠ 13 ∧ c ≠ 10) (hcs : ∀ x ∈ cs, isNameCh x = true) (hw : Filler w)
    (hR : isNameCh (R.headD 0) = false) (hRnw : NWS R) (hr : a.rest = c :: (cs ++ (w ++ R))) :
    (nameLoop (a.rest.length + 1) a []).1 = c :: cs ∧ (nameLoop (a.rest.length + 1) a []).2.skipWs.rest = R := by
  have hrn : isNameCh ((w ++ R).headD 0) = false := by
    cases w with
    | nil => exact hR
    | cons x xs => exact isWs_not_name (hw x (List.mem_cons_self ..))
  have hl := nameLoop_spec cs hcs c hc (w ++ R) hrn (a.rest.length + 1) (by rw [hr, List.length_cons, List.length_append]; omega) a [] hr
  exact ⟨hl.1, skipWs_spec _ w R hl.2 hw hRnw⟩

/-- **C10 (output terms)**: a name, optionally followed by a parenthesised argument list (arguments with nested parentheses
    and quoted strings, any filler after every character), or a quoted string, is read as the same text without the fillers. -/
theorem term_spec (a : AS) (t : TermS) (k : List Nat) (hok : t.ok) (hk : ∃ r, k = 58 :: r ∨ k = 46 :: r) (hr : a.rest = t.text ++ k) :
    ∃ a', term a = .ok (t.sym, a') ∧ a'.rest = k := by
  have hknw : NWS k := by obtain ⟨r, rfl | rfl⟩ := hk <;> exact nws_cons (by decide) _
  have hkn : isNameCh (k.headD 0) = false ∧ ([40] : List Nat).isPrefixOf k = false := by obtain ⟨r, rfl | rfl⟩ := hk <;> exact ⟨rfl, rfl⟩
  cases t with
  | str s =>
    obtain ⟨a1, e1, r1⟩ := str_spec [] a s k hok hknw hr
    refine ⟨a1.skipWs, ?_, skipWs_nws a1 r1 hknw⟩
    simp only [term, peek_cons hr, show isLower 34 = false from rfl,
      show ((34 : Nat) == 95) = false from rfl, Bool.or_self, Bool.false_eq_true, ↓reduceIte, BEq.rfl, e1, TermS.sym, List.nil_append]
  | fn c cs w g =>
    obtain ⟨hc, hcs, hw, hg⟩ := hok
    simp only [TermS.text, List.cons_append, List.append_assoc] at hr
    have hcl : (isLower c || c == 95) = true := by rcases hc with h | h <;> simp [h]
    have hcp : c ≠ 0 ∧ c ≠ 13 ∧ c ≠ 10 := by
      rcases hc with h | h
      · have := isLower_iff.1 h; omega
      · omega
    cases g with
    | none =>
      obtain ⟨hl, hsk⟩ := name_spec a c cs w k hcp hcs hw hkn.1 hknw hr
      obtain ⟨a1, e1, r1⟩ := tok_absent (nameLoop (a.rest.length + 1) a []).2.skipWs [40] hsk hkn.2
      refine ⟨a1.skipWs, ?_, skipWs_nws a1 r1 hknw⟩
      simp only [term, peek_cons hr, hcl, ↓reduceIte, e1, hl, TermS.sym, argsSymO, List.append_nil]
    | some g =>
      obtain ⟨hwo, hfirst, hmore, hwc⟩ := hg
      simp only [argsTextO, ArgsS.text, List.cons_append, List.append_assoc] at hr
      obtain ⟨hl, hsk⟩ := name_spec a c cs w _ hcp hcs hw rfl (nws_cons (by decide) _) hr
      obtain ⟨a1, e1, r1⟩ := C10_tok (nameLoop (a.rest.length + 1) a []).2.skipWs [40] g.wsOpen _ false hsk hwo
        (argText_nws g.first 0 0 hfirst _ (moreText_nws g.more _))
      obtain ⟨a2, e2, r2⟩ := argsLoop_spec g.more hmore g.first hfirst (g.wsClose ++ k) (a1.rest.length + 1) (by
        rw [r1, List.length_append, List.length_append]; have := moreText_length g.more; omega) a1 (c :: cs ++ [40]) r1
      obtain ⟨a3, e3, r3⟩ := C10_tok a2 [41] g.wsClose k true r2 hwc hknw
      refine ⟨a3.skipWs, ?_, skipWs_nws a3 r3 hknw⟩
      simp only [term, peek_cons hr, hcl, ↓reduceIte, e1, hl, e2, e3, TermS.sym, argsSymO, ArgsS.sym]
      simp only [List.append_assoc, List.cons_append, List.nil_append]

/-- `#output term [: cond].` -/
structure OutS where
  ws0   : List Nat
  term  : TermS
  cond  : Option BodyS
  wsDot : List Nat

def OutS.text (o : OutS) : List Nat := kwOutput ++ (o.ws0 ++ (o.term.text ++ (condText o.cond ++ (46 :: o.wsDot))))
def OutS.call (o : OutS) : Call := .output o.term.sym (bodyVals o.cond)
def OutS.ok (o : OutS) : Prop := Filler o.ws0 ∧ o.term.ok ∧ bodyOk o.cond ∧ Filler o.wsDot

theorem term_nws (t : TermS) (hok : t.ok) (k : List Nat) : NWS (t.text ++ k) := by
  cases t with
  | str s => exact nws_cons (by decide) _
  | fn x cs w g =>
    refine nws_cons ?_ _
    rcases hok.1 with h | h
    · exact isWs_false (by have := isLower_iff.1 h; omega)
    · subst h; decide

theorem dOutput_spec (a : AS) (o : OutS) (k : List Nat) (hok : o.ok) (hk : NWS k)
    (hr : a.rest = o.term.text ++ (condText o.cond ++ (46 :: (o.wsDot ++ k)))) :
    ∃ a', dOutput a = .ok (.call o.call, a') ∧ a'.rest = k := by
  obtain ⟨_, ht, hc, hwd⟩ := hok
  obtain ⟨a1, e1, r1⟩ := term_spec a o.term _ ht (by cases o.cond; exact ⟨_, Or.inr rfl⟩; exact ⟨_, Or.inl rfl⟩) hr
  obtain ⟨a2, e2, r2⟩ := condition_spec a1 o.cond (46 :: (o.wsDot ++ k)) hc (Sep.cons (by decide) _) rfl rfl r1
  obtain ⟨a3, e3, r3⟩ := C10_tok a2 [46] o.wsDot k true r2 hwd hk
  exact ⟨a3, by simp only [dOutput, bind, Except.bind, e1, e2, e3, pure, Except.pure, OutS.call], r3⟩

end PotasscoVerif.C10
