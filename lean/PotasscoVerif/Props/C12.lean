/-
  C12 — theory store returns what was stored, tracks steps, and replays faithfully.
  Model: Model/TheoryData.lean.
  Proved for all stores and all histories: the heap blocks live are those reachable from the tables (`C12_heap`); the term,
  element and atom tables behave like plain tables with a step mark and do not interfere; a visit shows exactly the stored
  items reachable from the atoms of its range (`C12_visit_*`).
  The order of the visits is not stated (model and code are compared); `print()` is Props/C12p.
-/
import PotasscoVerif.Model.TheoryData
namespace PotasscoVerif.C12
open PotasscoVerif.TheoryData

theorem join_set {α} (l : List (Option α)) (id j : Nat) (x : Option α) (h : id < l.length) :
    ((l.set id x)[j]?).join = if j = id then x else (l[j]?).join := by
  by_cases hj : j = id
  · subst hj; simp [h]
  · simp [hj, List.getElem?_set_ne (Ne.symm hj)]

theorem lt_of_join_some {α} {l : List (Option α)} {id : Nat} {a : α} (h : (l[id]?).join = some a) : id < l.length :=
  (List.getElem?_eq_some_iff.mp (Option.join_eq_some_iff.mp h)).1

theorem padTo_of_lt {α} {l : List (Option α)} {id : Nat} (h : id < l.length) : padTo l (id + 1) = l := by
  unfold padTo; rw [Nat.sub_eq_zero_of_le h]; exact List.append_nil l

theorem lt_padTo_length {α} (l : List (Option α)) (id : Nat) : id < (padTo l (id + 1)).length := by
  unfold padTo; rw [List.length_append, List.length_replicate]; exact Nat.sub_le_iff_le_add'.mp (Nat.le_refl _)

theorem padTo_slot {α} (l : List (Option α)) (id : Nat) : (padTo l (id + 1))[id]? = some (l[id]?).join := by
  by_cases h : id < l.length
  · rw [padTo_of_lt h, List.getElem?_eq_getElem h]; rfl
  · unfold padTo
    rw [List.getElem?_append_right (Nat.le_of_not_lt h), List.getElem?_replicate,
      if_pos (Nat.sub_lt_sub_right (Nat.le_of_not_lt h) (Nat.lt_succ_self id)),
      List.getElem?_eq_none (Nat.le_of_not_lt h)]; rfl

theorem padTo_get {α} (l : List (Option α)) (n j : Nat) : ((padTo l n)[j]?).join = (l[j]?).join := by
  unfold padTo
  by_cases hl : j < l.length
  · rw [List.getElem?_append_left hl]
  · rw [List.getElem?_append_right (Nat.le_of_not_lt hl), List.getElem?_replicate, List.getElem?_eq_none (Nat.le_of_not_lt hl)]
    split <;> rfl

theorem join_put {α} (l : List (Option α)) (id j : Nat) (x : Option α) :
    (((padTo l (id + 1)).set id x)[j]?).join = if j = id then x else (l[j]?).join := by
  rw [← padTo_get l (id + 1) j]
  exact join_set _ id j x (lt_padTo_length l id)

/-- the sum is split into one entry and a rest `w` that does not depend on it: the sums before and after a write are then
    related without a subtraction -/
theorem sum_set {α} (g : α → Nat) : ∀ (l : List α) (i : Nat) (a : α), l[i]? = some a →
    ∃ w, (l.map g).sum = w + g a ∧ ∀ x, ((l.set i x).map g).sum = w + g x := by
  intro l
  induction l with
  | nil => intro i a h; cases h
  | cons b l ih =>
    intro i a h
    cases i with
    | zero =>
      cases h
      exact ⟨(l.map g).sum, Nat.add_comm _ _, fun x => Nat.add_comm _ _⟩
    | succ i =>
      obtain ⟨w, h1, h2⟩ := ih i a h
      refine ⟨g b + w, ?_, fun x => ?_⟩
      · rw [List.map_cons, List.sum_cons, h1, Nat.add_assoc]
      · rw [List.set_cons_succ, List.map_cons, List.sum_cons, h2, Nat.add_assoc]

theorem sum_padTo {α} (g : Option α → Nat) (hg : g none = 0) (l : List (Option α)) (n : Nat) :
    ((padTo l n).map g).sum = (l.map g).sum := by
  simp [padTo, hg]

theorem sum_put {α} (g : Option α → Nat) (hg : g none = 0) (l : List (Option α)) (id : Nat) :
    ∃ w, (l.map g).sum = w + g (l[id]?).join ∧ ∀ x, (((padTo l (id + 1)).set id x).map g).sum = w + g x := by
  obtain ⟨w, h1, h2⟩ := sum_set g _ id _ (padTo_slot l id)
  exact ⟨w, sum_padTo g hg l _ ▸ h1, h2⟩

theorem removeTerm_some {d : TD} {id : Nat} {t : Term} (hg : d.getTerm id = some t) :
    d.removeTerm id = { d with terms := d.terms.set id none, live := d.live - t.heap } := by
  unfold TD.removeTerm; rw [hg]

theorem removeTerm_none {d : TD} {id : Nat} (hg : d.getTerm id = none) : d.removeTerm id = d := by
  unfold TD.removeTerm; rw [hg]

theorem addTerm_spec {d d' : TD} {id : Nat} {t : Term} (hs : d.addTerm id t = some d') :
    d' = { d with terms := (padTo d.terms (id + 1)).set id (some t), live := d.live - heapT (d.getTerm id) + t.heap } := by
  unfold TD.addTerm TD.hasTerm at hs
  cases hg : d.getTerm id with
  | none =>
    rw [hg] at hs
    cases hs; rfl
  | some t0 =>
    rw [hg] at hs
    obtain ⟨-, hs⟩ := Option.ite_none_left_eq_some.mp hs
    cases hs
    rw [removeTerm_some hg]
    simp only [List.set_set, padTo_of_lt (lt_of_join_some hg)]
    rfl

theorem addElement_spec {d d' : TD} {id : Nat} {ts : List Nat} {c : Nat} (hs : d.addElement id ts c = some d') :
    d' = { d with elems := (padTo d.elems (id + 1)).set id (some { terms := ts, cond := c, slot := c != 0 }),
                  live := d.live + 1 - heapE (d.getElem id) } := by
  unfold TD.addElement TD.hasElem at hs
  cases hg : d.getElem id with
  | none =>
    rw [hg] at hs
    cases hs; rfl
  | some e0 =>
    rw [hg] at hs
    obtain ⟨-, hs⟩ := Option.ite_none_left_eq_some.mp hs
    cases hs
    simp only [padTo_of_lt (lt_of_join_some hg)]
    rfl

theorem setCondition_spec {d d' : TD} {id c : Nat} (hs : d.setCondition id c = some d') :
    ∃ e, d.getElem id = some e ∧ e.cond = COND_DEFERRED ∧
      d' = { d with elems := d.elems.set id (some { e with cond := c }) } := by
  unfold TD.setCondition at hs
  cases hg : d.getElem id with
  | none => rw [hg] at hs; cases hs
  | some e =>
    rw [hg] at hs
    obtain ⟨hc, hs⟩ := Option.ite_none_right_eq_some.mp hs
    exact ⟨e, rfl, beq_iff_eq.mp hc, (Option.some.inj hs).symm⟩

def Acc (d : TD) : Prop := d.live = d.reachable

/-- the arithmetic of a write to the term table, to the element table, and of dropping `c - k` atoms.  Each proof moves the
    summand that is subtracted to the end of the sum and cancels it (`omega` proves all three, but its certificate for a
    truncated subtraction is slow to check). -/
theorem acc_terms {live T T' E A w old new : Nat} (h : live = T + E + A) (h1 : T = w + old) (h2 : T' = w + new) :
    live - old + new = T' + E + A := by
  subst h h1 h2
  rw [Nat.add_right_comm w old E, Nat.add_right_comm (w + E) old A, Nat.add_sub_cancel, Nat.add_right_comm (w + E) A new,
    Nat.add_right_comm w E new]

theorem acc_elems {live T E E' A w old : Nat} (h : live = T + E + A) (h1 : E = w + old) (h2 : E' = w + 1) :
    live + 1 - old = T + E' + A := by
  subst h h1 h2
  rw [← Nat.add_assoc T w old, Nat.add_right_comm (T + w) old A, Nat.add_right_comm (T + w + A) old 1, Nat.add_sub_cancel,
    ← Nat.add_assoc T w 1, Nat.add_right_comm (T + w) A 1]

theorem acc_atoms {live S o c k n : Nat} (h : live = S + n) (h1 : o + c = n) (h2 : k ≤ c) : live - (c - k) = S + (o + k) := by
  obtain ⟨j, rfl⟩ := Nat.exists_eq_add_of_le h2
  subst h h1
  rw [Nat.add_sub_cancel_left, ← Nat.add_assoc o k j, ← Nat.add_assoc S (o + k) j, Nat.add_sub_cancel]

theorem removeTerm_acc {d : TD} (h : Acc d) (id : Nat) : Acc (d.removeTerm id) := by
  cases hg : d.getTerm id with
  | none => rw [removeTerm_none hg]; exact h
  | some t =>
    rw [removeTerm_some hg]
    obtain ⟨w, h1, h2⟩ := sum_set heapT d.terms id _ (Option.join_eq_some_iff.mp hg)
    exact acc_terms h h1 (h2 none)

theorem addTerm_acc {d d' : TD} {id : Nat} {t : Term} (h : Acc d) (hs : d.addTerm id t = some d') : Acc d' := by
  rw [addTerm_spec hs]
  obtain ⟨w, h1, h2⟩ := sum_put heapT rfl d.terms id
  exact acc_terms h h1 (h2 (some t))

theorem addElement_acc {d d' : TD} {id c : Nat} {ts : List Nat} (h : Acc d) (hs : d.addElement id ts c = some d') : Acc d' := by
  rw [addElement_spec hs]
  obtain ⟨w, h1, h2⟩ := sum_put heapE rfl d.elems id
  exact acc_elems h h1 (h2 (some _))

theorem setCondition_acc {d d' : TD} {id c : Nat} (h : Acc d) (hs : d.setCondition id c = some d') : Acc d' := by
  obtain ⟨e, hg, -, rfl⟩ := setCondition_spec hs
  obtain ⟨w, h1, h2⟩ := sum_set heapE d.elems id _ (Option.join_eq_some_iff.mp hg)
  exact h.trans (congrArg (fun x => (d.terms.map heapT).sum + x + d.atoms.length) (h1.trans (h2 (some { e with cond := c })).symm))

theorem filter_acc {d : TD} (h : Acc d) (f : Atom → Bool) : Acc (d.filter f) := by
  have h1 : (d.atoms.take d.fAtom).length + (d.atoms.drop d.fAtom).length = d.atoms.length := by
    rw [← List.length_append, List.take_append_drop]
  have h2 := List.length_filter_le (fun a => a.atom == 0 || !f a) (d.atoms.drop d.fAtom)
  unfold Acc TD.reachable TD.filter
  rw [List.length_append]
  exact acc_atoms h h1 h2

theorem acc_getD {d : TD} (h : Acc d) {o : Option TD} (ho : ∀ d', o = some d' → Acc d') : Acc (o.getD d) := by
  cases o with
  | none => exact h
  | some d' => exact ho d' rfl

inductive Op where
  | addTerm (id : Nat) (t : Term) | removeTerm (id : Nat) | addElement (id : Nat) (ts : List Nat) (c : Nat)
  | addAtom (a : Atom) | setCondition (id c : Nat) | filter (m : Nat) | update | reset
deriving Repr, DecidableEq

/-- one operation; a refused operation (exception) leaves the store unchanged. -/
def step (d : TD) : Op → TD
  | .addTerm id t => (d.addTerm id t).getD d
  | .removeTerm id => d.removeTerm id
  | .addElement id ts c => (d.addElement id ts c).getD d
  | .addAtom a => d.addAtom a
  | .setCondition id c => (d.setCondition id c).getD d
  | .filter m => d.filter (fun a => a.atom % m == 0)
  | .update => d.update
  | .reset => d.reset

def run : TD → List Op → TD
  | d, [] => d
  | d, op :: ops => run (step d op) ops

theorem step_acc {d : TD} (h : Acc d) (op : Op) : Acc (step d op) := by
  cases op with
  | addTerm id t => exact acc_getD h fun _ => addTerm_acc h
  | removeTerm id => exact removeTerm_acc h id
  | addElement id ts c => exact acc_getD h fun _ => addElement_acc h
  | addAtom a =>
    unfold Acc TD.reachable at *
    show d.live + 1 = (d.terms.map heapT).sum + (d.elems.map heapE).sum + (d.atoms ++ [a]).length
    rw [List.length_append, h]; rfl
  | setCondition id c => exact acc_getD h fun _ => setCondition_acc h
  | filter m => exact filter_acc h _
  | update => exact h
  | reset => rfl

/-- **C12_heap.** After any history of operations the number of live heap blocks equals the number of
    blocks reachable from the tables: no operation sequence leaks a block or frees one twice (a double free
    would make `live` smaller than `reachable`); and after `reset` — which is what the destructor runs —
    nothing is live. -/
theorem C12_heap (ops : List Op) : (run {} ops).live = (run {} ops).reachable ∧ ((run {} ops).reset).live = 0 := by
  have key : ∀ (ops : List Op) (d : TD), Acc d → Acc (run d ops) := by
    intro ops
    induction ops with
    | nil => intro d h; exact h
    | cons op ops ih => intro d h; exact ih _ (step_acc h op)
  exact ⟨key ops {} rfl, rfl⟩

/-- a redefinition is refused exactly when the id is "new", and "new" means: in use and not below the last step mark
    (`C12_new_iff`) -/
theorem C12_redefinition (d : TD) (id : Nat) (t : Term) : d.addTerm id t = none ↔ d.isNewTerm id = true := by
  unfold TD.addTerm TD.isNewTerm
  by_cases hh : d.hasTerm id = true <;> by_cases hf : id ≥ d.fTerm <;> simp [hh, hf]

theorem C12_new_iff (d : TD) (id : Nat) : d.isNewTerm id = true ↔ ((d.getTerm id).isSome ∧ id ≥ d.fTerm) := by
  unfold TD.isNewTerm TD.hasTerm; simp

/-- what was stored comes back; every other id is untouched. -/
theorem C12_term_add (d d' : TD) (id : Nat) (t : Term) (hs : d.addTerm id t = some d') (j : Nat) :
    d'.getTerm j = if j = id then some t else d.getTerm j := by
  rw [addTerm_spec hs]
  exact join_put d.terms id j _

/-- a removed id is absent; every other id is untouched. -/
theorem C12_term_remove (d : TD) (id j : Nat) :
    (d.removeTerm id).getTerm j = if j = id then none else d.getTerm j := by
  cases hg : d.getTerm id with
  | none =>
    rw [removeTerm_none hg]
    split
    · next hj => rw [hj, hg]
    · rfl
  | some t0 =>
    rw [removeTerm_some hg]
    exact join_set d.terms id j none (lt_of_join_some hg)

theorem C12_elem_redefinition (d : TD) (id : Nat) (ts : List Nat) (c : Nat) : d.addElement id ts c = none ↔ d.isNewElem id = true := by
  unfold TD.addElement TD.isNewElem
  by_cases hh : d.hasElem id = true <;> by_cases hf : id ≥ d.fElem <;> simp [hh, hf]

theorem C12_elem_new_iff (d : TD) (id : Nat) : d.isNewElem id = true ↔ ((d.getElem id).isSome ∧ id ≥ d.fElem) := by
  unfold TD.isNewElem TD.hasElem; simp

/-- what was stored comes back (terms, condition); every other element id is untouched -/
theorem C12_elem_add (d d' : TD) (id : Nat) (ts : List Nat) (c : Nat) (hs : d.addElement id ts c = some d') (j : Nat) :
    d'.getElem j = if j = id then some { terms := ts, cond := c, slot := c != 0 } else d.getElem j := by
  rw [addElement_spec hs]
  exact join_put d.elems id j _

/-- a deferred condition can be set exactly once, and only that element changes -/
theorem C12_set_condition (d d' : TD) (id c : Nat) (hs : d.setCondition id c = some d') :
    ∃ e, d.getElem id = some e ∧ e.cond = COND_DEFERRED ∧ ∀ j, d'.getElem j = if j = id then some { e with cond := c } else d.getElem j := by
  obtain ⟨e, hg, hc, rfl⟩ := setCondition_spec hs
  exact ⟨e, hg, hc, fun j => join_set d.elems id j _ (lt_of_join_some hg)⟩

theorem C12_set_condition_refused (d : TD) (id c : Nat) :
    d.setCondition id c = none ↔ ∀ e, d.getElem id = some e → e.cond ≠ COND_DEFERRED := by
  unfold TD.setCondition
  cases hg : d.getElem id with
  | none => simp
  | some e => by_cases hc : e.cond = COND_DEFERRED <;> simp [hc]

/-- atoms are kept in the order they were added -/
theorem C12_atom_add (d : TD) (a : Atom) : (d.addAtom a).atoms = d.atoms ++ [a] ∧ (d.addAtom a).terms = d.terms ∧ (d.addAtom a).elems = d.elems := ⟨rfl, rfl, rfl⟩

/-- `filter` never touches atoms of earlier steps, keeps the order, and removes exactly the atoms of the current step that have a
    non-zero atom satisfying the predicate -/
theorem C12_filter (d : TD) (f : Atom → Bool) (h : d.fAtom ≤ d.atoms.length) :
    (d.filter f).atoms.take d.fAtom = d.atoms.take d.fAtom ∧
    (d.filter f).atoms.drop d.fAtom = (d.atoms.drop d.fAtom).filter (fun a => a.atom == 0 || !f a) ∧
    (d.filter f).terms = d.terms ∧ (d.filter f).elems = d.elems :=
  have hl : (d.atoms.take d.fAtom).length = d.fAtom := List.length_take_of_le h
  ⟨List.take_left' hl, List.drop_left' hl, rfl, rfl⟩

/-- the step mark: after `update` nothing is new; ids added afterwards are -/
theorem C12_update (d : TD) : (∀ id, d.update.isNewTerm id = false) ∧ (∀ id, d.update.isNewElem id = false) ∧
    d.update.terms = d.terms ∧ d.update.elems = d.elems ∧ d.update.atoms = d.atoms ∧ d.update.fAtom = d.atoms.length := by
  refine ⟨fun id => ?_, fun id => ?_, rfl, rfl, rfl, rfl⟩
  · cases hg : d.update.getTerm id with
    | none => unfold TD.isNewTerm TD.hasTerm; rw [hg]; rfl
    | some t => exact Bool.and_eq_false_imp.mpr fun _ => decide_eq_false (Nat.not_le.mpr (lt_of_join_some hg))
  · cases hg : d.update.getElem id with
    | none => unfold TD.isNewElem TD.hasElem; rw [hg]; rfl
    | some t => exact Bool.and_eq_false_imp.mpr fun _ => decide_eq_false (Nat.not_le.mpr (lt_of_join_some hg))

/-- operations on one table leave the other tables alone -/
theorem C12_tables_independent (d d' : TD) :
    (∀ id t, d.addTerm id t = some d' → d'.elems = d.elems ∧ d'.atoms = d.atoms) ∧
    (∀ id, (d.removeTerm id).elems = d.elems ∧ (d.removeTerm id).atoms = d.atoms) ∧
    (∀ id ts c, d.addElement id ts c = some d' → d'.terms = d.terms ∧ d'.atoms = d.atoms) ∧
    (∀ id c, d.setCondition id c = some d' → d'.terms = d.terms ∧ d'.atoms = d.atoms) := by
  refine ⟨fun id t hs => ?_, fun id => ?_, fun id ts c hs => ?_, fun id c hs => ?_⟩
  · rw [addTerm_spec hs]; exact ⟨rfl, rfl⟩
  · unfold TD.removeTerm; split <;> exact ⟨rfl, rfl⟩
  · rw [addElement_spec hs]; exact ⟨rfl, rfl⟩
  · obtain ⟨e, -, -, rfl⟩ := setCondition_spec hs; exact ⟨rfl, rfl⟩

/-- what may legitimately be shown to a visitor: stored items only, and in `current` mode only items of the current step -/
def Shown (d : TD) (cur : Bool) : Seen → Prop
  | .term id => d.hasTerm id = true ∧ (cur = true → d.isNewTerm id = true)
  | .elem id => d.hasElem id = true ∧ (cur = true → d.isNewElem id = true)
  | .atom i => i < d.atoms.length ∧ (cur = true → d.fAtom ≤ i)
  | .missing => False

def termKids (d : TD) (cur : Bool) (id : Nat) : List Nat :=
  match d.getTerm id with
  | some (.comp base args) => (args ++ (if base ≥ 0 then [base.toNat] else [])).filter (d.doTerm cur)
  | _ => []

/-- what an item refers to (restricted, in `current` mode, to what is new) -/
def children (d : TD) (cur : Bool) : Seen → List Seen
  | .term id => (termKids d cur id).map .term
  | .elem id => match d.getElem id with
    | some e => (e.terms.filter (d.doTerm cur)).map .term
    | none => []
  | .atom i => match d.atoms[i]? with
    | some a => ([a.term].filter (d.doTerm cur)).map .term ++ (a.elems.filter (d.doElem cur)).map .elem ++
        (match a.guard with | some (op, rhs) => ([op, rhs].filter (d.doTerm cur)).map .term | none => [])
    | none => []
  | .missing => []

/-- `a'` extends `a`, and every item of `a'` that was not yet in `a` is stored (and new, in `current` mode), has all it refers
    to in `a'`, and is an atom or referred to by an item of `a'`.  A visit extends its accumulator in this way; soundness,
    completeness and "nothing else" are the three parts of `fresh` for the empty accumulator. -/
structure Ext (d : TD) (cur : Bool) (a a' : List Seen) : Prop where
  mono : ∀ s ∈ a, s ∈ a'
  fresh : ∀ s ∈ a', s ∉ a → Shown d cur s ∧ (∀ c ∈ children d cur s, c ∈ a') ∧
    ((∃ i, s = Seen.atom i) ∨ ∃ p ∈ a', s ∈ children d cur p)

section
variable {d : TD} {cur : Bool}

theorem Ext.refl (a : List Seen) : Ext d cur a a := ⟨fun _ h => h, fun _ h hn => absurd h hn⟩

theorem Ext.trans {a b c : List Seen} (h1 : Ext d cur a b) (h2 : Ext d cur b c) : Ext d cur a c := by
  refine ⟨fun s hs => h2.mono s (h1.mono s hs), fun s hs hn => ?_⟩
  by_cases hb : s ∈ b
  · obtain ⟨x, y, z⟩ := h1.fresh s hb hn
    exact ⟨x, fun k hk => h2.mono k (y k hk), z.imp_right fun ⟨p, hp, hc⟩ => ⟨p, h2.mono p hp, hc⟩⟩
  · exact h2.fresh s hs hb

/-- the visit of one item `s`: it is pushed, and what follows shows all it refers to -/
theorem Ext.node {a r : List Seen} {s : Seen} (h : Ext d cur (a ++ [s]) r) (hs : Shown d cur s)
    (hk : ∀ c ∈ children d cur s, c ∈ r) (hp : (∃ i, s = Seen.atom i) ∨ ∃ p ∈ a, s ∈ children d cur p) :
    Ext d cur a r ∧ s ∈ r := by
  have hm : ∀ x ∈ a, x ∈ r := fun x hx => h.mono x (List.mem_append_left _ hx)
  refine ⟨⟨hm, fun x hx hn => ?_⟩, h.mono s (List.mem_append_right _ (List.mem_singleton_self s))⟩
  by_cases hin : x ∈ a ++ [s]
  · rcases List.mem_append.mp hin with h1 | h1
    · exact absurd h1 hn
    · rw [List.mem_singleton.mp h1]
      exact ⟨hs, hk, hp.imp_right fun ⟨p, hp, hc⟩ => ⟨p, hm p hp, hc⟩⟩
  · exact h.fresh x hx hin

theorem foldlM_ext {α : Type} (f : List Seen → α → Option (List Seen)) (root : α → Seen) (g : α → Bool) :
    ∀ (l : List α) (init r : List Seen),
    (∀ acc x acc', x ∈ l → (∀ s ∈ init, s ∈ acc) → f acc x = some acc' →
      Ext d cur acc acc' ∧ (g x = true → root x ∈ acc')) →
    l.foldlM f init = some r → Ext d cur init r ∧ ∀ x ∈ l, g x = true → root x ∈ r := by
  intro l
  induction l with
  | nil => intro init r _ hr; cases hr; exact ⟨Ext.refl _, nofun⟩
  | cons x xs ih =>
    intro init r hstep hr
    rw [List.foldlM_cons, Option.bind_eq_bind] at hr
    obtain ⟨b, hf, hr⟩ := Option.bind_eq_some_iff.mp hr
    obtain ⟨e1, r1⟩ := hstep init x b List.mem_cons_self (fun _ h => h) hf
    obtain ⟨e2, r2⟩ := ih b r
      (fun acc y acc' hy hm => hstep acc y acc' (List.mem_cons_of_mem _ hy) fun s hs => hm s (e1.mono s hs)) hr
    refine ⟨e1.trans e2, fun y hy hg => ?_⟩
    rcases List.mem_cons.mp hy with rfl | hy
    · exact e2.mono _ (r1 hg)
    · exact r2 y hy hg

theorem shown_term {id : Nat} {t : Term} (hg : d.getTerm id = some t) (hdo : d.doTerm cur id = true) :
    Shown d cur (.term id) :=
  ⟨by unfold TD.hasTerm; rw [hg]; rfl, fun hc => by subst hc; exact hdo⟩

theorem shown_elem {id : Nat} {e : Elem} (hg : d.getElem id = some e) (hdo : d.doElem cur id = true) :
    Shown d cur (.elem id) :=
  ⟨by unfold TD.hasElem; rw [hg]; rfl, fun hc => by subst hc; exact hdo⟩

/-- `if (doVisit…(id)) visit(id)`: nothing happens, or the visit -/
theorem opt_ext {b : Bool} {v : Option (List Seen)} {acc res : List Seen} {root : Seen}
    (hr : (if b = true then v else some acc) = some res) (hv : b = true → v = some res → Ext d cur acc res ∧ root ∈ res) :
    Ext d cur acc res ∧ (b = true → root ∈ res) := by
  by_cases hb : b = true
  · rw [if_pos hb] at hr
    exact ⟨(hv hb hr).1, fun _ => (hv hb hr).2⟩
  · rw [if_neg hb] at hr; cases hr
    exact ⟨Ext.refl _, fun h => absurd h hb⟩

theorem visitTerm_ext : ∀ (fuel id : Nat) (acc res : List Seen), d.visitTerm cur fuel id acc = some res →
    d.doTerm cur id = true → (∃ p ∈ acc, Seen.term id ∈ children d cur p) → Ext d cur acc res ∧ Seen.term id ∈ res := by
  intro fuel
  induction fuel with
  | zero => intro _ _ _ hr; cases hr
  | succ f ih =>
    intro id acc res hr hdo hp
    unfold TD.visitTerm at hr
    cases hg : d.getTerm id with
    | none => rw [hg] at hr; cases hr
    | some t =>
      rw [hg] at hr
      have hs := shown_term hg hdo
      cases t with
      | num n => cases hr; exact (Ext.refl _).node hs (by simp [children, termKids, hg]) (Or.inr hp)
      | sym nm => cases hr; exact (Ext.refl _).node hs (by simp [children, termKids, hg]) (Or.inr hp)
      | comp base args =>
        obtain ⟨e, hroots⟩ := foldlM_ext (d.optTerm cur f) Seen.term (d.doTerm cur) _ _ res
          (fun a x a' hx hm hxr => opt_ext hxr fun hdx hv => ih x a a' hv hdx
            ⟨.term id, hm _ (by simp), by
              simp only [children, termKids, hg, List.mem_map, List.mem_filter]; exact ⟨x, ⟨hx, hdx⟩, rfl⟩⟩) hr
        refine e.node hs (fun c hc => ?_) (Or.inr hp)
        simp only [children, termKids, hg, List.mem_map, List.mem_filter] at hc
        obtain ⟨x, ⟨hx, hdx⟩, rfl⟩ := hc
        exact hroots x hx hdx

theorem optTerm_ext {fuel i : Nat} {acc res : List Seen} (hr : d.optTerm cur fuel acc i = some res)
    (hp : d.doTerm cur i = true → ∃ p ∈ acc, Seen.term i ∈ children d cur p) :
    Ext d cur acc res ∧ (d.doTerm cur i = true → Seen.term i ∈ res) :=
  opt_ext hr fun hdo hv => visitTerm_ext fuel i acc res hv hdo (hp hdo)

theorem visitElem_ext {fuel id : Nat} {acc res : List Seen} (hr : d.visitElem cur fuel id acc = some res)
    (hdo : d.doElem cur id = true) (hp : ∃ p ∈ acc, Seen.elem id ∈ children d cur p) :
    Ext d cur acc res ∧ Seen.elem id ∈ res := by
  unfold TD.visitElem at hr
  cases hg : d.getElem id with
  | none => rw [hg] at hr; cases hr
  | some e =>
    rw [hg] at hr
    obtain ⟨e', hroots⟩ := foldlM_ext (d.optTerm cur fuel) Seen.term (d.doTerm cur) _ _ res
      (fun a x a' hx hm hxr => optTerm_ext hxr fun hdx => ⟨.elem id, hm _ (by simp), by
        simp only [children, hg, List.mem_map, List.mem_filter]; exact ⟨x, ⟨hx, hdx⟩, rfl⟩⟩) hr
    refine e'.node (shown_elem hg hdo) (fun c hc => ?_) (Or.inr hp)
    simp only [children, hg, List.mem_map, List.mem_filter] at hc
    obtain ⟨x, ⟨hx, hdx⟩, rfl⟩ := hc
    exact hroots x hx hdx

theorem optElem_ext {fuel i : Nat} {acc res : List Seen} (hr : d.optElem cur fuel acc i = some res)
    (hp : d.doElem cur i = true → ∃ p ∈ acc, Seen.elem i ∈ children d cur p) :
    Ext d cur acc res ∧ (d.doElem cur i = true → Seen.elem i ∈ res) :=
  opt_ext hr fun hdo hv => visitElem_ext hv hdo (hp hdo)

theorem children_atom {i : Nat} {a : Atom} (ha : d.atoms[i]? = some a) :
    children d cur (.atom i) = ([a.term].filter (d.doTerm cur)).map .term ++ (a.elems.filter (d.doElem cur)).map .elem ++
      (match a.guard with | some (op, rhs) => ([op, rhs].filter (d.doTerm cur)).map .term | none => []) := by
  simp only [children, ha]

theorem visitAtom_ext {fuel i : Nat} {a : Atom} {acc res : List Seen} (ha : d.atoms[i]? = some a)
    (hcur : cur = true → d.fAtom ≤ i) (hr : d.visitAtom cur fuel i a acc = some res) :
    Ext d cur acc res ∧ Seen.atom i ∈ res := by
  unfold TD.visitAtom at hr
  obtain ⟨r1, h1, hr⟩ := Option.bind_eq_some_iff.mp hr
  obtain ⟨r2, h2, hr⟩ := Option.bind_eq_some_iff.mp hr
  have hin0 : Seen.atom i ∈ acc ++ [Seen.atom i] := List.mem_append_right _ (List.mem_singleton_self _)
  have hch := children_atom (cur := cur) ha
  obtain ⟨e1, t1⟩ := optTerm_ext h1 fun hdo => ⟨.atom i, hin0, hch ▸ List.mem_append_left _ (List.mem_append_left _
    (List.mem_map_of_mem (List.mem_filter.mpr ⟨List.mem_singleton_self _, hdo⟩)))⟩
  obtain ⟨e2, t2⟩ := foldlM_ext (d.optElem cur fuel) Seen.elem (d.doElem cur) _ _ r2
    (fun b x b' hx hm hxr => optElem_ext hxr fun hdo => ⟨.atom i, hm _ (e1.mono _ hin0),
      hch ▸ List.mem_append_left _ (List.mem_append_right _ (List.mem_map_of_mem (List.mem_filter.mpr ⟨hx, hdo⟩)))⟩) h2
  have hin2 : Seen.atom i ∈ r2 := e2.mono _ (e1.mono _ hin0)
  obtain ⟨e3, g3⟩ : Ext d cur r2 res ∧ ∀ c ∈ (match a.guard with
      | some (op, rhs) => ([op, rhs].filter (d.doTerm cur)).map Seen.term | none => []), c ∈ res := by
    cases hgd : a.guard with
    | none => rw [hgd] at hr; cases hr; exact ⟨Ext.refl _, fun _ hc => nomatch List.not_mem_nil hc⟩
    | some g =>
      obtain ⟨op, rhs⟩ := g
      rw [hgd] at hr hch
      obtain ⟨r3, h3, hr⟩ := Option.bind_eq_some_iff.mp hr
      obtain ⟨e3, t3⟩ := optTerm_ext h3 fun hdo => ⟨.atom i, hin2, hch ▸ List.mem_append_right _
        (List.mem_map_of_mem (List.mem_filter.mpr ⟨List.mem_cons_self, hdo⟩))⟩
      obtain ⟨e4, t4⟩ := optTerm_ext hr fun hdo => ⟨.atom i, e3.mono _ hin2, hch ▸ List.mem_append_right _
        (List.mem_map_of_mem (List.mem_filter.mpr ⟨List.mem_cons_of_mem _ (List.mem_singleton_self _), hdo⟩))⟩
      refine ⟨e3.trans e4, fun c hc => ?_⟩
      simp only [List.mem_map, List.mem_filter, List.mem_cons, List.not_mem_nil, or_false] at hc
      obtain ⟨x, ⟨hx, hdo⟩, rfl⟩ := hc
      rcases hx with rfl | rfl
      · exact e4.mono _ (t3 hdo)
      · exact t4 hdo
  refine ((e1.trans e2).trans e3).node ⟨(List.getElem?_eq_some_iff.mp ha).1, hcur⟩ (fun c hc => ?_) (Or.inl ⟨i, rfl⟩)
  rw [hch] at hc
  rcases List.mem_append.mp hc with hc | hc
  · rcases List.mem_append.mp hc with hc | hc
    · simp only [List.mem_map, List.mem_filter, List.mem_singleton] at hc
      obtain ⟨x, ⟨rfl, hdo⟩, rfl⟩ := hc
      exact e3.mono _ (e2.mono _ (t1 hdo))
    · simp only [List.mem_map, List.mem_filter] at hc
      obtain ⟨x, ⟨hx, hdo⟩, rfl⟩ := hc
      exact e3.mono _ (t2 x hx hdo)
  · exact g3 c hc

theorem mem_drop_zipIdx {α} {l : List α} {n : Nat} {p : α × Nat} :
    p ∈ l.zipIdx.drop n ↔ n ≤ p.2 ∧ l[p.2]? = some p.1 := by
  obtain ⟨a, i⟩ := p
  show _ ↔ n ≤ i ∧ l[i]? = some a
  rw [List.mem_drop_iff_getElem]
  constructor
  · intro ⟨j, hj, e⟩
    rw [List.getElem_zipIdx, Nat.zero_add] at e
    cases e
    exact ⟨Nat.le_add_right n j, List.getElem?_eq_getElem _⟩
  · intro ⟨h1, h2⟩
    obtain ⟨j, rfl⟩ := Nat.exists_eq_add_of_le h1
    obtain ⟨hlt, rfl⟩ := List.getElem?_eq_some_iff.mp h2
    exact ⟨j, by rw [List.length_zipIdx, Nat.add_comm]; exact hlt, by rw [List.getElem_zipIdx, Nat.zero_add]⟩

theorem visit_ext {res : List Seen} (hr : d.visit cur = some res) :
    Ext d cur [] res ∧ ∀ i, (if cur then d.fAtom else 0) ≤ i → i < d.atoms.length → Seen.atom i ∈ res := by
  unfold TD.visit at hr
  obtain ⟨e, hroots⟩ := foldlM_ext _ (fun p : Atom × Nat => Seen.atom p.2) (fun _ => true) _ _ res
    (fun acc p acc' hp _ hx =>
      have ⟨h1, h2⟩ := mem_drop_zipIdx.mp hp
      have := visitAtom_ext h2 (fun hc => by rw [hc] at h1; exact h1) hx
      ⟨this.1, fun _ => this.2⟩) hr
  exact ⟨e, fun i h1 h2 => hroots (d.atoms[i], i) (mem_drop_zipIdx.mpr ⟨h1, List.getElem?_eq_getElem h2⟩) rfl⟩

end

/-- **visiting is sound**: whatever a fully recursive visitor is shown — in either mode, on any store — is stored; in `current`
    mode it is an atom, element or term added since the last step mark. -/
theorem C12_visit_sound (d : TD) (cur : Bool) (res : List Seen) (hr : d.visit cur = some res) : ∀ s ∈ res, Shown d cur s :=
  fun s hs => ((visit_ext hr).1.fresh s hs List.not_mem_nil).1

/-- **visiting is complete**: a visit that ends normally has shown every atom of the range it starts from (all atoms, or those of
    the current step), and with every item shown also everything that item refers to (in `current` mode: what of it is new). Together
    with `C12_visit_sound` the items shown are exactly the stored items reachable from those atoms. -/
theorem C12_visit_complete (d : TD) (cur : Bool) (res : List Seen) (hr : d.visit cur = some res) :
    (∀ i, (if cur then d.fAtom else 0) ≤ i → i < d.atoms.length → Seen.atom i ∈ res) ∧ ∀ s ∈ res, ∀ c ∈ children d cur s, c ∈ res :=
  ⟨(visit_ext hr).2, fun s hs => ((visit_ext hr).1.fresh s hs List.not_mem_nil).2.1⟩

/-- **… and nothing but**: every term or element shown to the visitor is referred to by an item that was shown -/
theorem C12_visit_only_referenced (d : TD) (cur : Bool) (res : List Seen) (hr : d.visit cur = some res) :
    ∀ s ∈ res, (∃ i, s = Seen.atom i) ∨ ∃ p ∈ res, s ∈ children d cur p :=
  fun s hs => ((visit_ext hr).1.fresh s hs List.not_mem_nil).2.2

/-! non-vacuity -/
example : ((run {} [.addTerm 3 (.num 1), .addTerm 3 (.comp 0 []), .update, .addTerm 3 (.comp (-1) [1, 2]), .addTerm 0 (.sym [97])]).getTerm 3)
    = some (.comp (-1) [1, 2]) := by decide
example : (run {} [.addTerm 3 (.sym [97]), .addAtom ⟨2, 3, [], none⟩, .update, .addAtom ⟨4, 3, [0], some (1, 2)⟩, .filter 2]).live = 2 := by decide

example : (run {} [.addTerm 0 (.num 1), .addTerm 1 (.comp 0 [0]), .addElement 0 [1] 0, .addAtom ⟨1, 0, [0], some (0, 1)⟩, .update,
    .addTerm 2 (.num 5), .addAtom ⟨0, 2, [0], some (0, 2)⟩]).visit true = some [.atom 1, .term 2, .term 2] := by decide +kernel

end PotasscoVerif.C12
