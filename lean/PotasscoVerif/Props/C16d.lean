/-
  C16 (continued) — the library's enumerations: every constant of every enumeration of the library is written as its name, and the
  name (alone, or followed by a separator) is converted back to exactly that constant; a constant's number is accepted too,
  the numbers next below and next above the declared range and a name that is no constant (`xxx`) are refused.

  The declaration texts (`Gen.*_rep`, what the `POTASSCO_ENUM_CONSTANTS` macro stringizes) and the (name, value) tables
  (`Gen.*_table`, read from the `enum E { … }` the same macro declares) are regenerated from /repo's headers on every run; the
  statements are finite tables decided by the kernel (`decide +kernel`) over the WHOLE of each table.
-/
import PotasscoVerif.Model.StringConvert
import PotasscoVerif.Gen.Consts
namespace PotasscoVerif.C16
open PotasscoVerif PotasscoVerif.StringConvert

def nameBytes (s : String) : List Nat := s.toList.map Char.toNat

def EnumOk (rep : List Nat) (lo hi : Int) (table : List (String × Int)) : Bool :=
  let e : EnumClass := { rep := rep, min := lo, max := hi }
  table.all (fun kv =>
    e.nameOf kv.2 == some (nameBytes kv.1) &&
    e.parse (nameBytes kv.1) == ((nameBytes kv.1).length, some kv.2) &&
    e.parse (nameBytes kv.1 ++ [44, 120]) == ((nameBytes kv.1).length, some kv.2) &&
    e.isValid kv.2) &&
  !e.isValid (lo - 1) && !e.isValid (hi + 1) && e.nameOf (hi + 1) == none && (e.parse [120, 120, 120]).2 == none

def entryOk (e : EnumClass) (n : List Nat) (v : Int) : Bool :=
  e.nameOf v == some n && e.parse n == (n.length, some v) && e.parse (n ++ [44, 120]) == (n.length, some v) && e.isValid v

/-- A name literal is `String.ofList` of its characters by definition (`rewrite` unifies the two); taking the entries off
    a table with this lemma before evaluating keeps `String.toList`, a UTF-8 decoder over a byte array that is slow to
    evaluate, out of the evaluation. -/
theorem enumOk_cons (rep : List Nat) (lo hi : Int) (l : List Char) (v : Int) (t : List (String × Int)) :
    EnumOk rep lo hi ((String.ofList l, v) :: t) = (entryOk ⟨rep, lo, hi⟩ (l.map Char.toNat) v && EnumOk rep lo hi t) := by
  simp only [EnumOk, entryOk, nameBytes, List.all_cons, String.toList_ofList, Bool.and_assoc]

theorem C16_enum_Head_t : EnumOk Gen.Head_t_rep Gen.Head_t_eMin Gen.Head_t_eMax Gen.Head_t_table = true := by
  rw [Gen.Head_t_table]; repeat rewrite [enumOk_cons]
  decide +kernel
theorem C16_enum_Body_t : EnumOk Gen.Body_t_rep Gen.Body_t_eMin Gen.Body_t_eMax Gen.Body_t_table = true := by
  rw [Gen.Body_t_table]; repeat rewrite [enumOk_cons]
  decide +kernel
theorem C16_enum_Value_t : EnumOk Gen.Value_t_rep Gen.Value_t_eMin Gen.Value_t_eMax Gen.Value_t_table = true := by
  rw [Gen.Value_t_table]; repeat rewrite [enumOk_cons]
  decide +kernel
theorem C16_enum_Heuristic_t : EnumOk Gen.Heuristic_t_rep Gen.Heuristic_t_eMin Gen.Heuristic_t_eMax Gen.Heuristic_t_table = true := by
  rw [Gen.Heuristic_t_table]; repeat rewrite [enumOk_cons]
  decide +kernel
theorem C16_enum_Directive_t : EnumOk Gen.Directive_t_rep Gen.Directive_t_eMin Gen.Directive_t_eMax Gen.Directive_t_table = true := by
  rw [Gen.Directive_t_table]; repeat rewrite [enumOk_cons]
  decide +kernel
theorem C16_enum_Theory_t : EnumOk Gen.Theory_t_rep Gen.Theory_t_eMin Gen.Theory_t_eMax Gen.Theory_t_table = true := by
  rw [Gen.Theory_t_table]; repeat rewrite [enumOk_cons]
  decide +kernel
theorem C16_enum_Clause_t : EnumOk Gen.Clause_t_rep Gen.Clause_t_eMin Gen.Clause_t_eMax Gen.Clause_t_table = true := by
  rw [Gen.Clause_t_table]; repeat rewrite [enumOk_cons]
  decide +kernel
theorem C16_enum_Statistics_t : EnumOk Gen.Statistics_t_rep Gen.Statistics_t_eMin Gen.Statistics_t_eMax Gen.Statistics_t_table = true := by
  rw [Gen.Statistics_t_table]; repeat rewrite [enumOk_cons]
  decide +kernel
theorem C16_enum_Tuple_t : EnumOk Gen.Tuple_t_rep Gen.Tuple_t_eMin Gen.Tuple_t_eMax Gen.Tuple_t_table = true := by
  rw [Gen.Tuple_t_table]; repeat rewrite [enumOk_cons]
  decide +kernel

/-- what `EnumOk` says, unfolded: value → name → value for every constant of a table that passes -/
theorem C16_enum_roundtrip (rep : List Nat) (lo hi : Int) (table : List (String × Int)) (h : EnumOk rep lo hi table = true) :
    ∀ kv ∈ table, (EnumClass.nameOf { rep := rep, min := lo, max := hi } kv.2) = some (nameBytes kv.1) ∧
      EnumClass.parse { rep := rep, min := lo, max := hi } (nameBytes kv.1) = ((nameBytes kv.1).length, some kv.2) := by
  intro kv hkv
  unfold EnumOk at h
  simp only [Bool.and_eq_true, List.all_eq_true, beq_iff_eq] at h
  exact (h.1.1.1.1 kv hkv).1.1

end PotasscoVerif.C16
