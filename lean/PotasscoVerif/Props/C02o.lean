/-
  C02 (continued) — several incremental steps, the shown symbols and the costs.
  `C02_steps_equivalence`: for incremental programs of ANY number of steps (rules, minimize, output, edge directives; no external directives, either
  setting of the extension), the program given so far and the program emitted so far have the same answer sets one to one under the converter's atom
  map (`C02_steps_stable_models`, same extension `E`), and under corresponding answer sets exactly the same symbol names are shown — over the output
  directives of ALL steps (an output directive emitted in step 1 keeps standing for its condition in every later step: `KO`, Lemmas/ConvertStep.lean).
  `C02_steps_outputs`: the invariant itself, also with the extension on and any external directives.
  `C02_steps_minimize`, `C02_steps_cost`: the same for the minimize statements of all steps (`MO`); the `_ext` twins: extension on, any externals.
-/
import PotasscoVerif.Props.C02m
import PotasscoVerif.Lemmas.ConvertStepsOut
namespace PotasscoVerif.C02
open PotasscoVerif PotasscoVerif.Convert PotasscoVerif.Asp

/-- **C02 (several steps, minimize statements)**: `C02_steps_outputs` together with the invariant `MO` for the minimize statements emitted over all steps -/
theorem C02_steps_minimize (ext : Bool) (dss : List (List Call)) (hx : ∀ ds ∈ dss, ∀ d ∈ ds, PlainOk d)
    (hnh : ∀ ds ∈ dss, ∀ d ∈ ds, isHeu d = false) (hE : (∀ ds ∈ dss, extCalls ds = []) ∨ ext = true) :
    ∃ defs, J (convert ext (stepsCalls dss)) ((rulesOf dss.flatten).filter kept) defs ∧
      KO (convert ext (stepsCalls dss)) (srcOuts dss.flatten) defs ∧ MO (convert ext (stepsCalls dss)) (minsOf dss.flatten) := by
  obtain ⟨a1, d1, he⟩ := init_JX ext true
  obtain ⟨k1, m1⟩ := init_KO_MO ext true
  obtain ⟨defs, t, hj, _, _, hko, hmo⟩ := steps_JXOM dss hx hnh a1 d1 rfl k1 m1 (hE.imp id (he.trans ·))
  rw [convert_steps_eq]
  exact ⟨defs, hj, hko, hmo⟩

/-- **C02 (several steps, output directives)**: after any number of steps (no heuristic directives; no external directives, or the extension on)
    all rules emitted are a translation of all rules given (`J`), and the output directives emitted are exactly those given (`KO`): each given one has
    an emitted one under the same name on an atom that stands for its condition, and each emitted one comes from a given one -/
theorem C02_steps_outputs (ext : Bool) (dss : List (List Call)) (hx : ∀ ds ∈ dss, ∀ d ∈ ds, PlainOk d)
    (hnh : ∀ ds ∈ dss, ∀ d ∈ ds, isHeu d = false) (hE : (∀ ds ∈ dss, extCalls ds = []) ∨ ext = true) :
    ∃ defs, J (convert ext (stepsCalls dss)) ((rulesOf dss.flatten).filter kept) defs ∧
      KO (convert ext (stepsCalls dss)) (srcOuts dss.flatten) defs := by
  obtain ⟨defs, hj, hko, _⟩ := C02_steps_minimize ext dss hx hnh hE
  exact ⟨defs, hj, hko⟩

/-- **C02 (several steps, answer sets and shown symbols)** -/
theorem C02_steps_equivalence (ext : Bool) (dss : List (List Call)) (hx : ∀ ds ∈ dss, ∀ d ∈ ds, PlainOk d)
    (hnh : ∀ ds ∈ dss, ∀ d ∈ ds, isHeu d = false) (hE : ∀ ds ∈ dss, extCalls ds = []) :
    ∃ E : I → I,
      (∀ X, Stable (rulesOf dss.flatten) X →
        Stable (rulesOf (convert ext (stepsCalls dss)).out) (E X) ∧ E X 1 = false ∧ restrict (convert ext (stepsCalls dss)) (E X) = X) ∧
      (∀ X', Stable (rulesOf (convert ext (stepsCalls dss)).out) X' → X' 1 = false →
        Stable (rulesOf dss.flatten) (restrict (convert ext (stepsCalls dss)) X') ∧ E (restrict (convert ext (stepsCalls dss)) X') = X') ∧
      (∀ X name, shown dss.flatten X name ↔ shownOut (convert ext (stepsCalls dss)).out (E X) name) := by
  obtain ⟨defs, hj, hko⟩ := C02_steps_outputs ext dss hx hnh (Or.inl hE)
  obtain ⟨h1, h2⟩ := answer_sets_rules hj (ctx_trans hj)
  exact ⟨_, h1, h2, shown_iff hj hko⟩

/-- **C02 (several steps WITH externals, extension on: answer sets and shown symbols)** -/
theorem C02_steps_equivalence_ext (dss : List (List Call)) (hx : ∀ ds ∈ dss, ∀ d ∈ ds, PlainOk d) (hnh : ∀ ds ∈ dss, ∀ d ∈ ds, isHeu d = false) :
    ∃ E : I → I,
      (∀ X, Stable (progOf dss.flatten) X →
        Stable (progOf (convert true (stepsCalls dss)).out) (E X) ∧ E X 1 = false ∧ restrict (convert true (stepsCalls dss)) (E X) = X) ∧
      (∀ X', Stable (progOf (convert true (stepsCalls dss)).out) X' → X' 1 = false →
        Stable (progOf dss.flatten) (restrict (convert true (stepsCalls dss)) X') ∧ E (restrict (convert true (stepsCalls dss)) X') = X') ∧
      (∀ X name, shown dss.flatten X name ↔ shownOut (convert true (stepsCalls dss)).out (E X) name) := by
  obtain ⟨defs, hj, hko⟩ := C02_steps_outputs true dss hx hnh (Or.inr rfl)
  obtain ⟨h1, h2⟩ := answer_sets hj (steps_trans_ext dss hx hj)
  exact ⟨_, h1, h2, shown_iff hj hko⟩

/-- **C02 (several steps, optimisation)**: for incremental programs of any number of steps without external directives (either setting of the extension),
    under corresponding answer sets and for every priority, the minimize statements emitted over ALL steps cost what the minimize statements given over all
    steps cost, minus a constant (the sum of the negative weights of that priority): the order of answer sets by cost is the same. -/
theorem C02_steps_cost (ext : Bool) (dss : List (List Call)) (hx : ∀ ds ∈ dss, ∀ d ∈ ds, PlainOk d)
    (hnh : ∀ ds ∈ dss, ∀ d ∈ ds, isHeu d = false) (hE : ∀ ds ∈ dss, extCalls ds = []) :
    ∃ E : I → I,
      (∀ X, Stable (rulesOf dss.flatten) X →
        Stable (rulesOf (convert ext (stepsCalls dss)).out) (E X) ∧ E X 1 = false ∧ restrict (convert ext (stepsCalls dss)) (E X) = X) ∧
      (∀ X', Stable (rulesOf (convert ext (stepsCalls dss)).out) X' → X' 1 = false → E (restrict (convert ext (stepsCalls dss)) X') = X') ∧
      (∀ X p, costAt (convert ext (stepsCalls dss)).out p (E X) = costAt dss.flatten p X - negM (minsOf dss.flatten) p) := by
  obtain ⟨defs, hj, _, hmo⟩ := C02_steps_minimize ext dss hx hnh (Or.inl hE)
  obtain ⟨h1, h2⟩ := answer_sets_rules hj (ctx_trans hj)
  exact ⟨_, h1, fun X' hs h0 => (h2 X' hs h0).2, cost_eq hj hmo fun d hd => (List.mem_flatten.mp hd).elim fun ds h => hx ds h.1 d h.2⟩

/-- **C02 (several steps WITH externals, extension on: optimisation)** -/
theorem C02_steps_cost_ext (dss : List (List Call)) (hx : ∀ ds ∈ dss, ∀ d ∈ ds, PlainOk d) (hnh : ∀ ds ∈ dss, ∀ d ∈ ds, isHeu d = false) :
    ∃ E : I → I,
      (∀ X, Stable (progOf dss.flatten) X →
        Stable (progOf (convert true (stepsCalls dss)).out) (E X) ∧ E X 1 = false ∧ restrict (convert true (stepsCalls dss)) (E X) = X) ∧
      (∀ X', Stable (progOf (convert true (stepsCalls dss)).out) X' → X' 1 = false → E (restrict (convert true (stepsCalls dss)) X') = X') ∧
      (∀ X p, costAt (convert true (stepsCalls dss)).out p (E X) = costAt dss.flatten p X - negM (minsOf dss.flatten) p) := by
  obtain ⟨defs, hj, _, hmo⟩ := C02_steps_minimize true dss hx hnh (Or.inr rfl)
  obtain ⟨h1, h2⟩ := answer_sets hj (steps_trans_ext dss hx hj)
  exact ⟨_, h1, fun X' hs h0 => (h2 X' hs h0).2, cost_eq hj hmo fun d hd => (List.mem_flatten.mp hd).elim fun ds h => hx ds h.1 d h.2⟩

/-! #### non-vacuity: two steps; the name given in step 1 stays shown on its condition in step 2, a second name joins it -/
def exStepsO : List (List Call) :=
  [[.rule 1 [1, 2] [], .output [97] [1, -2]],          -- {x1; x2}.  #output a : x1, not x2.
   [.rule 0 [3] [1], .output [98] [3]]]                -- x3 :- x1.  #output b : x3.

example : (∀ ds ∈ exStepsO, ∀ d ∈ ds, PlainOk d) ∧ (∀ ds ∈ exStepsO, ∀ d ∈ ds, isHeu d = false) ∧ (∀ ds ∈ exStepsO, extCalls ds = []) := by
  decide

example : outsOf (convert true (stepsCalls exStepsO)).out = [([97], [4]), ([98], [5])] := by decide +kernel

/-- minimize statements in two steps, one with a negative weight: both are emitted, the negative weight on the complementary literal -/
def exStepsM : List (List Call) :=
  [[.rule 1 [1, 2] [], .minimize 0 [(1, 2), (-2, 1)]], [.rule 0 [3] [1], .minimize 0 [(3, -4)], .minimize 1 [(2, 1)]]]

example : (∀ ds ∈ exStepsM, ∀ d ∈ ds, PlainOk d) ∧ (∀ ds ∈ exStepsM, ∀ d ∈ ds, isHeu d = false) ∧ (∀ ds ∈ exStepsM, extCalls ds = []) := by
  decide

example : minsOf (convert false (stepsCalls exStepsM)).out = [(0, [(2, 2), (-3, 1)]), (0, [(-4, 4)]), (1, [(3, 1)])] := by decide +kernel

end PotasscoVerif.C02
