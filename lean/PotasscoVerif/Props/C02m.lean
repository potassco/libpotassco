/-
  C02 (continued) — several incremental steps: the program given so far and the program emitted so far, for incremental programs of any number
  of steps — without external directives (either setting of the extension), or with the clasp extension on and ANY external directives (then the
  externals of all steps are read together, `progOf` of the concatenation: the LAST directive over all steps counts).
  All the answer-set statements are `answer_sets` (Props/C02sem.lean) applied to a translation.
-/
import PotasscoVerif.Props.C02sem
import PotasscoVerif.Lemmas.ConvertSteps
namespace PotasscoVerif.C02
open PotasscoVerif PotasscoVerif.Convert PotasscoVerif.Asp

/-- **C02 (several steps, the rules)**: all steps without external directives, or the extension on -/
theorem C02_steps_translation (ext : Bool) (dss : List (List Call)) (hx : ∀ ds ∈ dss, ∀ d ∈ ds, PlainOk d)
    (hE : (∀ ds ∈ dss, extCalls ds = []) ∨ ext = true) :
    ∃ defs, J (convert ext (stepsCalls dss)) ((rulesOf dss.flatten).filter kept) defs ∧
      Trans (ctxOf (convert ext (stepsCalls dss)) defs) ((rulesOf dss.flatten).filter kept) (rulesOf (convert ext (stepsCalls dss)).out) := by
  obtain ⟨a1, d1, he⟩ := init_JX ext true
  obtain ⟨defs, t, hj, _, _⟩ := steps_JX dss hx a1 d1 rfl (hE.imp id (he.trans ·))
  rw [convert_steps_eq]
  exact ⟨defs, hj, ctx_trans hj⟩

/-- **C02 (several steps, answer sets)**: incremental programs of any number of steps without external directives -/
theorem C02_steps_stable_models (ext : Bool) (dss : List (List Call)) (hx : ∀ ds ∈ dss, ∀ d ∈ ds, PlainOk d) (hE : ∀ ds ∈ dss, extCalls ds = []) :
    ∃ E : I → I,
      (∀ X, Stable (rulesOf dss.flatten) X →
        Stable (rulesOf (convert ext (stepsCalls dss)).out) (E X) ∧ E X 1 = false ∧ restrict (convert ext (stepsCalls dss)) (E X) = X) ∧
      (∀ X', Stable (rulesOf (convert ext (stepsCalls dss)).out) X' → X' 1 = false →
        Stable (rulesOf dss.flatten) (restrict (convert ext (stepsCalls dss)) X') ∧ E (restrict (convert ext (stepsCalls dss)) X') = X') := by
  obtain ⟨defs, hj, tr⟩ := C02_steps_translation ext dss hx (Or.inl hE)
  exact ⟨_, answer_sets_rules hj tr⟩

/-- **C02 (several steps, externals passed on)**: with the extension on, the external calls emitted over ALL steps of an incremental program are,
    step after step and in the order of declaration, the atoms declared external in that step while no rule (of this or an earlier step) had defined
    them, each with its image under the final atom map and the LAST value declared for it in that step -/
theorem C02_steps_externals (dss : List (List Call)) (hx : ∀ ds ∈ dss, ∀ d ∈ ds, PlainOk d) :
    extCalls (convert true (stepsCalls dss)).out = (stepRegs {} dss).map (fun p => (finalMap (convert true (stepsCalls dss)) p.1, p.2)) := by
  obtain ⟨a1, d1, he⟩ := init_JX true true
  obtain ⟨defs, t, hj, _, _⟩ := steps_JX dss hx a1 d1 rfl (Or.inr he)
  rw [convert_steps_eq, (steps_extCalls dss hx a1 d1 rfl he _ (agree_final _ hj.inv)).1]
  rfl

/-- for a GIVEN table of auxiliary atoms (so that other invariants over the same table can be used with it): with the extension on, the rules of all
    steps plus the reading of all external directives translate to the rules emitted plus the reading of the external calls emitted -/
theorem steps_trans_ext (dss : List (List Call)) (hx : ∀ ds ∈ dss, ∀ d ∈ ds, PlainOk d) {defs : List (Nat × Body)}
    (hj : J (convert true (stepsCalls dss)) ((rulesOf dss.flatten).filter kept) defs) :
    Trans (ctxOf (convert true (stepsCalls dss)) defs) ((rulesOf dss.flatten).filter kept ++ extRules dss.flatten) (progOf (convert true (stepsCalls dss)).out) := by
  obtain ⟨a1, d1, he⟩ := init_JX true true
  have hH : ∀ b ∈ (({} : T).run dss.flatten).heads, b ∈ headsOf dss.flatten := fun b hb => by rw [run_heads] at hb; exact hb
  refine trans_extRules hj (C02_steps_externals dss hx) (fun p hp => ?_) ?_ fun a _ hc => stepRegs_last dss {} rfl _ hH a (by simpa using hc)
  · rw [convert_steps_eq]
    exact (steps_extCalls dss hx a1 d1 rfl he _ (agree_final _ (convert_steps_eq true dss ▸ hj.inv))).2 p hp
  · rw [stepRegs_atoms dss {} rfl]
    simpa using run_regs dss.flatten {} _ hH

/-- **C02 (several steps WITH externals, extension on)**.  For incremental programs of ANY number of steps made of rules, minimize, output, edge, heuristic
    and ANY external directives, converted with the clasp extension on: reading the external directives of all steps together (`progOf` of the
    concatenation: an external on an atom that no rule of any step defines is a fact / a choice / nothing, the LAST directive over all steps counts) and the
    external calls emitted over all steps in the same way, the program given so far and the program emitted so far have the same answer sets, one to one
    under the converter's atom map. -/
theorem C02_steps_stable_models_ext (dss : List (List Call)) (hx : ∀ ds ∈ dss, ∀ d ∈ ds, PlainOk d) :
    ∃ E : I → I,
      (∀ X, Stable (progOf dss.flatten) X →
        Stable (progOf (convert true (stepsCalls dss)).out) (E X) ∧ E X 1 = false ∧ restrict (convert true (stepsCalls dss)) (E X) = X) ∧
      (∀ X', Stable (progOf (convert true (stepsCalls dss)).out) X' → X' 1 = false →
        Stable (progOf dss.flatten) (restrict (convert true (stepsCalls dss)) X') ∧ E (restrict (convert true (stepsCalls dss)) X') = X') := by
  obtain ⟨defs, hj, _⟩ := C02_steps_translation true dss hx (Or.inr rfl)
  exact ⟨_, answer_sets hj (steps_trans_ext dss hx hj)⟩

/-! non-vacuity: three steps; a later step uses atoms of an earlier one, an integrity constraint, a weight rule and an output -/
def exSteps : List (List Call) :=
  [[.rule 1 [1, 2] [], .rule 0 [3] [1, -2]], [.rule 0 [] [3, 4], .sumRule 0 [5] 2 [(1, 1), (3, 2)], .output [97] [5]], [.rule 0 [4] [-5], .minimize 0 [(4, 1)]]]

example : ∀ ds ∈ exSteps, ∀ d ∈ ds, PlainOk d := by decide
example : ∀ ds ∈ exSteps, extCalls ds = [] := by decide
example : (rulesOf (convert true (stepsCalls exSteps)).out).length = 5 := by decide +kernel

/-- two steps with externals: atom 1 free then true in step one, atom 2 declared in both steps, atom 3 defined in step one and declared in step two (no effect) -/
def exStepsX : List (List Call) :=
  [[.external 1 0, .external 2 2, .external 1 1, .rule 0 [3] [1, -2]], [.external 2 3, .external 3 1, .rule 0 [4] [2]]]
example : stepRegs {} exStepsX = [(1, 1), (2, 2), (1, 1), (2, 3)] := by decide
example : extCalls (convert true (stepsCalls exStepsX)).out = [(2, 1), (3, 2), (2, 1), (3, 3)] := by decide +kernel

end PotasscoVerif.C02
