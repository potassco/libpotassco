/-
  C10 (continued) — incremental programs: `#incremental.` and `#step.` boundaries.
-/
import PotasscoVerif.Props.C10p
namespace PotasscoVerif.C10
open PotasscoVerif PotasscoVerif.CharStream PotasscoVerif.TextIn PotasscoVerif.Decimal PotasscoVerif.AspifOut
open PotasscoVerif.BufferedStream (isDigit isWs I64MAX)

/-- a later step: `#step` filler `.` filler and its statements -/
structure StepS where
  ws1   : List Nat
  ws2   : List Nat
  stmts : List StmtX

def StepS.text (s : StepS) : List Nat := kwStep ++ (s.ws1 ++ (46 :: (s.ws2 ++ progTextX s.stmts)))
def StepS.ok (s : StepS) : Prop := Filler s.ws1 ∧ Filler s.ws2 ∧ s.stmts ≠ [] ∧ ∀ st ∈ s.stmts, st.ok

def laterText : List StepS → List Nat
  | [] => []
  | s :: r => s.text ++ laterText r

theorem laterText_follows (l : List StepS) : FollowsC (laterText l) := by
  cases l with
  | nil => exact Or.inl rfl
  | cons s r => exact FollowsC.hash _

theorem laterText_length (l : List StepS) : l.length ≤ (laterText l).length := by
  induction l with
  | nil => exact Nat.le_refl _
  | cons s r ih => simp only [laterText, StepS.text, kwStep, List.length_append, List.length_cons]; omega

theorem stmtLoop_marker (f : Nat) (a : AS) (acc : List Call) (ws1 ws2 k : List Nat) (h1 : Filler ws1) (h2 : Filler ws2) (hk : NWS k)
    (ws : List Nat) (hws : Filler ws) (hr : a.rest = ws ++ (kwStep ++ (ws1 ++ (46 :: (ws2 ++ k))))) :
    ∃ a', stmtLoop true (f + 1) a acc = (acc, .ok a') ∧ a'.rest = k := by
  have hs : a.skipWs.rest = kwStep ++ (ws1 ++ (46 :: (ws2 ++ k))) := skipWs_spec a ws _ hr hws (nws_cons (by decide) _)
  obtain ⟨a1, e1, r1⟩ := directive_spec true (i := 7) rfl a.skipWs ws1 _ hs h1 (nws_cons (by decide) _)
  obtain ⟨a2, e2, r2⟩ := C10_tok a1 [46] ws2 k true r1 h2 hk
  have hd : directive true a.skipWs = .ok (.step, a2) := by
    rw [e1]; simp only [dStep, Bool.not_true, Bool.false_eq_true, ↓reduceIte, bind, Except.bind, e2, pure, Except.pure]
  exact ⟨a2, stmtLoop_directive true f a acc ws _ _ a2 hws hr hd, r2⟩

theorem stmtLoop_progK (stmts : List StmtX) (hok : ∀ st ∈ stmts, st.ok) (s : StepS) (hs : s.ok) (tailK : List Nat) (hT : FollowsC tailK)
    (f : Nat) (hf : stmts.length + 1 < f) (a : AS) (acc : List Call) (ws : List Nat) (hws : Filler ws)
    (hr : a.rest = ws ++ (progTextX stmts ++ (kwStep ++ (s.ws1 ++ (46 :: (s.ws2 ++ (progTextX s.stmts ++ tailK))))))) :
    ∃ a', stmtLoop true f a acc = (acc ++ stmts.flatMap StmtX.calls, .ok a') ∧ a'.rest = progTextX s.stmts ++ tailK := by
  obtain ⟨g, rfl⟩ : ∃ g, f = stmts.length + (g + 1) := ⟨f - stmts.length - 1, by omega⟩
  obtain ⟨a1, ws1, e1, hw1, r1⟩ := stmtLoop_stmts true stmts hok _ (FollowsC.hash _) (g + 1) a acc ws hws hr
  obtain ⟨a2, e2, r2⟩ := stmtLoop_marker g a1 (acc ++ stmts.flatMap StmtX.calls) s.ws1 s.ws2 _ hs.1 hs.2.1
    (progTextX_follows_app s.stmts hs.2.2.2 tailK hT).nws ws1 hw1 r1
  exact ⟨a2, e1.trans e2, r2⟩

theorem more_stmt (a : AS) (st : StmtX) (hok : st.ok) (k : List Nat) (hr : a.rest = st.text ++ k) : AspifIn.more a = (true, a.skipWs) := by
  obtain ⟨c, t, e, hc⟩ := stmtX_head st hok k
  have hc0 : isWs c = false ∧ (c != 0) = true := by
    cases hi : st.isComment <;> rw [hi] at hc
    · exact ⟨(start_facts hc).1, by simpa using (start_facts hc).2.1⟩
    · subst hc; decide
  have hp : a.skipWs.peek = c := peek_cons (skipWs_nws a (hr.trans e) (nws_cons hc0.1 t))
  unfold AspifIn.more
  simp only [hp, hc0.2]

def stepCalls (stmts : List StmtX) : List Call := [.beginStep] ++ stmts.flatMap StmtX.calls ++ [.endStep]
def laterCalls : List StepS → List Call
  | [] => []
  | s :: r => stepCalls s.stmts ++ laterCalls r

theorem stepsLoop_spec (later : List StepS) (hl : ∀ s ∈ later, s.ok) (cur : List StmtX) (hc : ∀ st ∈ cur, st.ok) (f : Nat) (hf : later.length < f)
    (a : AS) (acc : List Call) (hr : a.rest = progTextX cur ++ laterText later) :
    stepsLoop f true a acc = { calls := acc ++ stepCalls cur ++ laterCalls later, err := none } := by
  induction f generalizing later cur a acc with
  | zero => exact absurd hf (Nat.not_lt_zero _)
  | succ f ih =>
    cases later with
    | nil =>
      rw [stepsLoop_last true f a acc cur hc [] Filler.nil (by rw [hr, laterText, List.append_nil, List.nil_append])]
      simp only [stepCalls, laterCalls, List.append_nil, List.append_assoc]
    | cons s r =>
      obtain ⟨hs, hl'⟩ := List.forall_mem_cons.1 hl
      simp only [laterText, StepS.text, List.append_assoc, List.cons_append] at hr
      have hlen : cur.length + 1 < a.rest.length + 1 := by
        rw [hr]; have := progTextX_length cur hc; simp only [kwStep, List.length_append, List.length_cons]; omega
      obtain ⟨a1, h1, hr1⟩ := stmtLoop_progK cur hc s hs (laterText r) (laterText_follows r) (a.rest.length + 1) hlen a [] [] Filler.nil hr
      -- the next step is not empty, so the input goes on behind the marker
      obtain ⟨st, rest, hst⟩ := List.exists_cons_of_ne_nil hs.2.2.1
      have hmore : AspifIn.more a1 = (true, a1.skipWs) :=
        more_stmt a1 st (hs.2.2.2 st (by rw [hst]; exact List.mem_cons_self ..)) _ (by rw [hr1, hst, progTextX, List.append_assoc])
      have hsk : a1.skipWs.rest = progTextX s.stmts ++ laterText r :=
        skipWs_nws a1 hr1 (progTextX_follows_app s.stmts hs.2.2.2 _ (laterText_follows r)).nws
      have := ih r hl' s.stmts hs.2.2.2 (Nat.lt_of_succ_lt_succ hf) a1.skipWs (acc ++ stepCalls cur) hsk
      simp only [stepsLoop, h1, hmore, Bool.not_true, Bool.and_false, Bool.false_eq_true, ↓reduceIte, List.nil_append]
      have e : acc ++ [Call.beginStep] ++ List.flatMap StmtX.calls cur ++ [Call.endStep] = acc ++ stepCalls cur := by
        simp only [stepCalls, List.append_assoc]
      rw [e, this, laterCalls, List.append_assoc]

def preText : List CommentS → List Nat
  | [] => []
  | c :: r => c.text ++ preText r

theorem preText_nws (pre : List CommentS) (K : List Nat) (hK : ∃ t, K = 35 :: t) : NWS (preText pre ++ K) := by
  cases pre with
  | nil => obtain ⟨t, rfl⟩ := hK; exact nws_cons (by decide) t
  | cons c r' => exact nws_cons (by decide) _

theorem skipComments_pre (pre : List CommentS) (hok : ∀ c ∈ pre, c.ok) (K : List Nat) (hK : ∃ t, K = 35 :: t) (f : Nat) (hf : pre.length < f)
    (a : AS) (hr : a.rest = preText pre ++ K) : (skipComments f a).rest = K := by
  induction pre generalizing f a with
  | nil =>
    obtain ⟨t, rfl⟩ := hK
    rw [skipComments_stop f a (by rw [peek_cons hr]; rfl)]; exact hr
  | cons c r ih =>
    cases f with
    | zero => exact absurd hf (Nat.not_lt_zero _)
    | succ f =>
      simp only [preText, List.append_assoc] at hr
      obtain ⟨hc, hok'⟩ := List.forall_mem_cons.1 hok
      obtain ⟨a1, h1, hr1⟩ := skipComments_comment f a c _ hc (preText_nws r K hK) hr
      rw [h1]
      exact ih hok' f (Nat.lt_of_succ_lt_succ hf) a1 hr1

theorem preText_length (pre : List CommentS) : pre.length ≤ (preText pre).length := by
  induction pre with
  | nil => exact Nat.le_refl _
  | cons c r ih => simp only [preText, CommentS.text, List.length_append, List.length_cons]; omega

/-- an incremental program: (filler, comment lines,) `#incremental.`, the statements of the first step, then `#step.`-separated steps -/
structure IncProg where
  ws0   : List Nat
  pre   : List CommentS
  ws1   : List Nat
  ws2   : List Nat
  first : List StmtX
  later : List StepS

def IncProg.body (p : IncProg) : List Nat := kwIncremental ++ (p.ws1 ++ (46 :: (p.ws2 ++ (progTextX p.first ++ laterText p.later))))
def IncProg.text (p : IncProg) : List Nat := p.ws0 ++ (preText p.pre ++ p.body)
def IncProg.ok (p : IncProg) : Prop :=
  Filler p.ws0 ∧ (∀ c ∈ p.pre, c.ok) ∧ Filler p.ws1 ∧ Filler p.ws2 ∧ (∀ st ∈ p.first, st.ok) ∧ ∀ s ∈ p.later, s.ok

/-- **C10 (steps)**: an incremental program — any filler and comment lines, `#incremental.`, then steps separated by `#step.`, each made
    of the statement kinds of `C10_read_programX` (comment lines included), any filler anywhere — is read as `initProgram(true)` and,
    per step, `beginStep`, exactly the step's statements, `endStep`; the boundaries fall exactly at the `#step.` markers. -/
theorem C10_read_incremental (p : IncProg) (hok : p.ok) :
    TextIn.read p.text = { calls := [.initProgram true] ++ stepCalls p.first ++ laterCalls p.later, err := none } := by
  obtain ⟨h0, hpre, h1, h2, hf, hl⟩ := hok
  have hK : ∃ t, p.body = 35 :: t := ⟨_, rfl⟩
  have hs : (AS.init p.text).skipWs.rest = preText p.pre ++ p.body := skipWs_spec _ p.ws0 _ rfl h0 (preText_nws p.pre _ hK)
  have hfol : FollowsC (preText p.pre ++ p.body) := by
    cases p.pre with
    | nil => exact FollowsC.hash _
    | cons c r => exact Or.inr ⟨37, _, rfl, Or.inr rfl⟩
  have hsc := skipComments_pre p.pre hpre p.body hK ((AS.init p.text).skipWs.rest.length + 1)
    (by rw [hs, List.length_append]; have := preText_length p.pre; omega) _ hs
  obtain ⟨a2, e2, r2⟩ := C10_tok _ kwIncremental p.ws1 _ false hsc h1 (nws_cons (by decide) _)
  obtain ⟨a3, e3, r3⟩ := C10_tok a2 [46] p.ws2 _ true r2 h2 (progTextX_follows_app p.first hf _ (laterText_follows p.later)).nws
  rw [TextIn.read, attach_spec _ (by rw [hs]; exact hfol)]
  simp only [e2, e3]
  exact stepsLoop_spec p.later hl p.first hf _ (by rw [r3, List.length_append]; have := laterText_length p.later; omega) a3 _ r3

/-! both sides of `C10_read_incremental` on a program with a leading comment, `#output` with nested arguments and a quoted string,
    a comment between statements, and a second step -/
def exInc : IncProg :=
  { ws0 := [32], pre := [⟨[32, 104, 105], .crlf, []⟩], ws1 := [], ws2 := [10],
    first := [ .output { ws0 := [32], term := .fn 112 [95, 49] [] (some { wsOpen := [], first := [.ch 102 [], .ch 40 [], .ch 97 [], .ch 44 [32], .ch 49 [], .ch 41 []],
                                                                              more := [([32], [.str ⟨[.ch 104, .esc 34], []⟩])], wsClose := [32] }),
                         cond := some ⟨[32], [(⟨false, 1, .letter, [], []⟩, [])]⟩, wsDot := [10] },
               .comment ⟨[120], .lf, [32]⟩,
               .base (.rule { head := .disj [(⟨1, .letter, []⟩, 59, [])], body := none, wsDot := [10] }) ],
    later := [ { ws1 := [], ws2 := [10], stmts := [ .output { ws0 := [32], term := .str ⟨[.ch 104], []⟩, cond := none, wsDot := [] } ] } ] }

example : (TextIn.read exInc.text) =
    { calls := [.initProgram true, .beginStep, .output [112, 95, 49, 40, 102, 40, 97, 44, 49, 41, 44, 34, 104, 92, 34, 34, 41] [1], .rule 0 [1] [], .endStep,
                .beginStep, .output [34, 104, 34] [], .endStep], err := none } := by decide +kernel
example : [.initProgram true] ++ stepCalls exInc.first ++ laterCalls exInc.later =
    [Call.initProgram true, .beginStep, .output [112, 95, 49, 40, 102, 40, 97, 44, 49, 41, 44, 34, 104, 92, 34, 34, 41] [1], .rule 0 [1] [], .endStep,
                .beginStep, .output [34, 104, 34] [], .endStep] := by decide +kernel

end PotasscoVerif.C10
