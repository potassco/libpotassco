/-
  C05 — smodels writer and reader are inverses on the smodels-expressible fragment.

  `C05_roundtrip`: for every program of the fragment (`ProgOk`: per step a rule section of rules with non-empty head or integrity
  constraints through the false atom, cardinality/weight rules with non-negative bound, minimize statements and — with extensions —
  externals; then symbol-table entries for single positive atoms; then at most one compute statement; one step, or any number with
  the clasp extensions; arguments anywhere in their ranges; any false atom) the writer succeeds and the reader delivers
  `initProgram _ :: canonCalls f p` without error.  `canonCalls` is the program rule for rule with body literals negative-first
  (`canonB`, a permutation: `C05_body_order`), weighted literals likewise with a negative weight as its absolute value on the
  complementary literal (`canonW`; for weights ≥ 0 only the order changes: `C05_weights_kept`), minimize statements in order with
  priorities 0,1,…, the symbol table and the externals unchanged, the compute statement as integrity constraints (and the false
  atom's).  The argument of initProgram is what the first character suggests: the format has no header.
  `C05_refused_*`: for each kind of call, exactly when the writer refuses it (programs outside the fragment are refused, not
  written incorrectly).  `C05_value_code`: the external value code of rule 91 is its own inverse on 0..2.
  The proof (Lemmas/SmodelsRoundTrip*.lean): what the writer emits is a word of the strict smodels grammar of Props/C07b.lean
  denoting the canonical form, so the reader's completeness theorems read it back.  Buffer independence is C09.
-/
import PotasscoVerif.Lemmas.SmodelsRoundTrip2
namespace PotasscoVerif.C05
open PotasscoVerif PotasscoVerif.SmodelsOut

def refused (r : Except W W) : Prop := ∃ e, r = .error e

theorem refused_error (w : W) : refused (.error w) ↔ True := iff_true_intro ⟨w, rfl⟩
theorem refused_ok (w : W) : refused (.ok w) ↔ False := iff_false_intro (fun ⟨_, h⟩ => nomatch h)
theorem refused_ite (c : Prop) [Decidable c] (e : W) (y : Except W W) : refused (if c then .error e else y) ↔ c ∨ refused y := by
  by_cases h : c <;> simp [h, refused_error]

theorem C05_refused_rule (ext : Bool) (f : Nat) (w : W) (ht : Nat) (head : List Nat) (body : List Int) :
    refused (step ext f w (.rule ht head body)) ↔ (w.sec ≠ 0 ∨ (head = [] ∧ ht ≠ 1 ∧ f = 0)) := by
  simp only [step, refused_ite]
  cases head <;> by_cases h1 : ht = 1 <;> simp [h1, refused_ite, refused_ok]

theorem C05_refused_sum (ext : Bool) (f : Nat) (w : W) (ht : Nat) (head : List Nat) (bound : Int) (body : List (Int × Int)) :
    refused (step ext f w (.sumRule ht head bound body)) ↔
      (w.sec ≠ 0 ∨ (head = [] ∧ f = 0) ∨ ht = 1 ∨ (head ≠ [] ∧ head.length ≠ 1) ∨ bound < 0) := by
  simp only [step, refused_ite, refused_ok, or_false]
  cases head <;> simp

theorem C05_refused_output (ext : Bool) (f : Nat) (w : W) (name : List Nat) (cond : List Int) :
    refused (step ext f w (.output name cond)) ↔ (w.sec > 1 ∨ ¬ ∃ l, cond = [l] ∧ l > 0) := by
  rcases cond with _ | ⟨l, _ | ⟨l2, r⟩⟩ <;> simp [step, refused_ite, refused_ok, refused_error]

theorem C05_refused_external (ext : Bool) (f : Nat) (w : W) (a v : Nat) :
    refused (step ext f w (.external a v)) ↔ ext = false := by
  simp [step, apply_ite refused, refused_ok, refused_error]

theorem C05_refused_assume (ext : Bool) (f : Nat) (w : W) (lits : List Int) :
    refused (step ext f w (.assume lits)) ↔ w.sec ≥ 2 := by
  simp only [step, doAssume, refused_ite, refused_ok, or_false]

theorem C05_refused_incremental (ext : Bool) (f : Nat) (w : W) (b : Bool) :
    refused (step ext f w (.initProgram b)) ↔ (b = true ∧ ext = false) := by
  simp [step, refused_ite, refused_ok]

/-- directives smodels cannot express are always refused. -/
theorem C05_refused_unsupported (ext : Bool) (f : Nat) (w : W) :
    (∀ a, refused (step ext f w (.project a))) ∧ (∀ a t b p c, refused (step ext f w (.heuristic a t b p c))) ∧
    (∀ s t c, refused (step ext f w (.acycEdge s t c))) ∧ (∀ i n, refused (step ext f w (.theoryNum i n))) ∧
    (∀ i n, refused (step ext f w (.theorySym i n))) ∧ (∀ i c a, refused (step ext f w (.theoryCompound i c a))) ∧
    (∀ i t c, refused (step ext f w (.theoryElement i t c))) ∧ (∀ a t e g, refused (step ext f w (.theoryAtom a t e g))) := by
  unfold refused step
  refine ⟨?_, ?_, ?_, ?_, ?_, ?_, ?_, ?_⟩ <;> intros <;> exact ⟨w, rfl⟩

/-- the writer's body order: a permutation of the body, negatives first, relative order kept. -/
theorem C05_body_order {α} (isNeg : α → Bool) (l : List α) :
    (ordered isNeg l).Perm l ∧ (ordered isNeg l).filter isNeg = l.filter isNeg ∧
    (ordered isNeg l).filter (fun x => !isNeg x) = l.filter (fun x => !isNeg x) := by
  unfold ordered
  refine ⟨List.filter_append_perm isNeg l, ?_, ?_⟩ <;> simp [List.filter_append, List.filter_filter]

theorem C05_value_code : ∀ v ∈ [0, 1, 2], (((v ^^^ 3) - 1) ^^^ 3) - 1 = v := by decide

open PotasscoVerif.SmRT in
/-- **C05**: every program of the fragment is written (not refused) and read back as its canonical form, without error. -/
theorem C05_roundtrip (ext inc : Bool) (f : Nat) (steps : List Step) (h : ProgOk ext inc f steps) :
    (write ext f (progCalls inc steps)).2 = true ∧
    ∃ b, SmodelsIn.read ext (write ext f (progCalls inc steps)).1 = { calls := .initProgram b :: canonCalls f steps, err := none } :=
  write_read ext inc f steps h

open PotasscoVerif.SmRT in
/-- for rule bodies (weights ≥ 0) the weighted literals come back unchanged up to the order negative-first -/
theorem C05_weights_kept (ws : List (Int × Int)) (h : ∀ p ∈ ws, 0 ≤ p.2) :
    canonW ws = ordered (fun (p : Int × Int) => decide (p.1 < 0)) ws := canonW_nonneg ws h

/-! non-vacuity -/
def exCalls : List Call :=
  [.initProgram true, .beginStep, .rule 0 [] [1, -2], .rule 1 [3, 4] [5, -6, 7, -8], .sumRule 0 [2] 3 [(1, 2), (-3, 0), (4, 5)],
   .minimize 7 [(1, -2), (-3, 4)], .external 5 2, .output [97] [1], .assume [2, -3], .endStep, .beginStep, .endStep]

example : (write true 9 exCalls).2 = true ∧
    (SmodelsIn.read true (write true 9 exCalls).1).calls =
    [.initProgram true, .beginStep, .rule 0 [9] [-2, 1], .rule 1 [3, 4] [-6, -8, 5, 7], .sumRule 0 [2] 3 [(-3, 0), (1, 2), (4, 5)],
     .minimize 0 [(-1, 2), (-3, 4)], .external 5 2, .output [97] [1], .rule 0 [] [-2], .rule 0 [] [3], .rule 0 [] [9], .endStep,
     .beginStep, .endStep] := by decide +kernel

/-- `exCalls` as steps -/
def exSteps : List SmRT.Step :=
  [{ rs := [.rule 0 [] [1, -2], .rule 1 [3, 4] [5, -6, 7, -8], .sumRule 0 [2] 3 [(1, 2), (-3, 0), (4, 5)], .minimize 7 [(1, -2), (-3, 4)], .external 5 2],
     outs := [.output [97] [1]], asm := some [2, -3] },
   { rs := [], outs := [], asm := none }]

example : SmRT.progCalls true exSteps = exCalls := by decide +kernel

open PotasscoVerif.SmRT PotasscoVerif.AspifRT in
example : ProgOk true true 9 exSteps := by
  refine ⟨by decide, by decide, fun _ => rfl, ?_⟩
  intro s hs
  simp only [exSteps, List.mem_cons, List.not_mem_nil, or_false] at hs
  rcases hs with rfl | rfl
  · refine ⟨?_, ?_, ?_⟩
    · intro c hc
      simp only [List.mem_cons, List.not_mem_nil, or_false] at hc
      rcases hc with rfl | rfl | rfl | rfl | rfl <;> simp only [RuleOk, atomOk, litOk, lenOk] <;> decide
    · intro c hc
      simp only [List.mem_cons, List.not_mem_nil, or_false] at hc
      subst hc; simp only [OutOk]; decide
    · intro l hl x hx
      simp only [Option.some.injEq] at hl; subst hl
      simp only [List.mem_cons, List.not_mem_nil, or_false] at hx
      rcases hx with rfl | rfl <;> simp only [litOk] <;> decide
  · exact ⟨by simp, by simp, by simp⟩

end PotasscoVerif.C05
