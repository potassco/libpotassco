/-
  C09 — Buffered input is transparent: same characters wherever the buffer refills.

  The simulation lemmas are in Lemmas/BufferedStream.lean.  `B` is `BufferedStream::BUF_SIZE`; every theorem is for
  all `B ≥ 2`, and `C09_current_buffer` is that hypothesis for the value the code has.
-/
import PotasscoVerif.Lemmas.BufferedStream
import PotasscoVerif.Gen.Consts
namespace PotasscoVerif.C09
open PotasscoVerif.BufferedStream PotasscoVerif.CharStream

/-- One admissible operation: the buffered stream and the abstract character stream return the same
    observation and stay related.  (`Sim` contains the representation invariant, incl. `viol = false`.) -/
theorem C09_simulation {B : Nat} {c : BS} {a : AS} (hB : 2 ≤ B) (h : Sim B c a) (op : Op) (hadm : Adm B a op) :
    (step B c op).1 = (a.step op).1 ∧ Sim B (step B c op).2 (a.step op).2 :=
  step_sim hB h op hadm

def runState (B : Nat) : BS → List Op → BS
  | c, [] => c
  | c, op :: ops => runState B (step B c op).2 ops

theorem run_sim {B : Nat} (hB : 2 ≤ B) : ∀ (ops : List Op) (c : BS) (a : AS), Sim B c a → AdmAll B a ops →
    run B c ops = AS.run a ops ∧ ∃ a', Sim B (runState B c ops) a' := by
  intro ops
  induction ops with
  | nil => intro c a h _; exact ⟨rfl, a, h⟩
  | cons op ops ih =>
    intro c a h hadm
    have hs := C09_simulation hB h op hadm.1
    have ih := ih _ _ hs.2 hadm.2
    refine ⟨?_, ih.2⟩
    simp only [run, AS.run]
    rw [hs.1, ih.1]

/-- **Transparency.** Any finite sequence of admissible operations on the buffered stream over a NUL-free
    input yields exactly the observations of the abstract character stream — for every buffer size
    `B ≥ 2`, every input length, wherever refill boundaries fall. -/
theorem C09_transparent (B : Nat) (hB : 2 ≤ B) (input : List Nat) (hn : ∀ c ∈ input, c ≠ 0)
    (ops : List Op) (hadm : AdmAll B (AS.init input) ops) :
    run B (BS.init B input) ops = AS.run (AS.init input) ops :=
  (run_sim hB ops _ _ (init_sim hB input hn) hadm).1

/-- Corollary: the observations do not depend on the buffer size at all. -/
theorem C09_buffer_independent (B₁ B₂ : Nat) (h₁ : 2 ≤ B₁) (h₂ : 2 ≤ B₂) (input : List Nat)
    (hn : ∀ c ∈ input, c ≠ 0) (ops : List Op)
    (ha₁ : AdmAll B₁ (AS.init input) ops) (ha₂ : AdmAll B₂ (AS.init input) ops) :
    run B₁ (BS.init B₁ input) ops = run B₂ (BS.init B₂ input) ops := by
  rw [C09_transparent B₁ h₁ input hn ops ha₁, C09_transparent B₂ h₂ input hn ops ha₂]

/-! adaptive clients: the next operation may depend on everything observed so far -/

inductive Client (α : Type) where
  | ret (x : α)
  | ask (op : Op) (k : Obs → Client α)

def Client.runC {α} (B : Nat) : Client α → BS → α
  | .ret x, _ => x
  | .ask op k, c => (k (step B c op).1).runC B (step B c op).2

def Client.runA {α} : Client α → AS → α
  | .ret x, _ => x
  | .ask op k, a => (k (a.step op).1).runA (a.step op).2

def Client.AdmC {α} (B : Nat) : Client α → AS → Prop
  | .ret _, _ => True
  | .ask op k, a => Adm B a op ∧ (k (a.step op).1).AdmC B (a.step op).2

theorem C09_transparent_adaptive {α} (B : Nat) (hB : 2 ≤ B) (input : List Nat) (hn : ∀ c ∈ input, c ≠ 0)
    (cl : Client α) (hadm : cl.AdmC B (AS.init input)) :
    cl.runC B (BS.init B input) = cl.runA (AS.init input) := by
  have key : ∀ (cl : Client α) (c : BS) (a : AS), Sim B c a → cl.AdmC B a → cl.runC B c = cl.runA a := by
    intro cl
    induction cl with
    | ret x => intro c a _ _; rfl
    | ask op k ih =>
      intro c a h hadm
      have hs := C09_simulation hB h op hadm.1
      simp only [Client.runC, Client.runA]
      rw [hs.1]
      exact ih _ _ _ hs.2 hadm.2
  exact key cl _ _ (init_sim hB input hn) hadm

/-- **No access outside the data read.** After any admissible run the ghost flag `viol` is still
    `false`: no `buf_` access had an index beyond the sentinel (i.e. touched a byte that was not read from
    the input), no store had an index `> BUF_SIZE`; and the representation invariant holds.
    (`viol` is only ever updated as `viol || …`.) -/
theorem C09_memsafe (B : Nat) (hB : 2 ≤ B) (input : List Nat) (hn : ∀ c ∈ input, c ≠ 0)
    (ops : List Op) (hadm : AdmAll B (AS.init input) ops) :
    (runState B (BS.init B input) ops).viol = false ∧ Inv B (runState B (BS.init B input) ops) := by
  obtain ⟨a', h⟩ := (run_sim hB ops _ _ (init_sim hB input hn) hadm).2
  exact ⟨h.inv.noviol, h.inv⟩

/-- **A refill makes progress.** With `B ≥ 2`, an `underflow()` on the sentinel of a stream that still has
    data puts at least one unread byte into the window.  This is the fact that fails for `BUF_SIZE = 1`,
    see `C09_needs_two`. -/
theorem C09_refill_progress (B : Nat) (hB : 2 ≤ B) (s : BS) (hi : PreInv B s) (he : s.rpos = s.win.length)
    (hsrc : s.src ≠ []) : window (underflow B s true) ≠ [] := by
  have hu := underflow_at_end hB hi he
  intro hw
  have hr := hu.2.1
  rw [remaining, hw, hu.1.parked (Nat.le_antisymm hu.1.rpos_le (List.drop_eq_nil_iff.mp hw))] at hr
  exact hsrc hr.symm

/-- `Gen.BUF_SIZE` is generated from /repo. -/
theorem C09_current_buffer : 2 ≤ Gen.BUF_SIZE := by decide

/-- `B ≥ 2` is necessary: with a one-byte buffer a refill reads 0 bytes and the stream reports the end of
    input although a byte is left. -/
theorem C09_needs_two :
    run 1 (BS.init 1 [65, 66]) [.get, .atEnd] ≠ AS.run (AS.init [65, 66]) [.get, .atEnd] := by decide

/-! non-vacuity: a history that meets every hypothesis and crosses refill boundaries -/

def exInput : List Nat := [32, 45, 49, 50, 13, 10, 97, 98, 99, 32, 55]   -- " -12\r\nabc 7"
def exOps : List Op :=
  [.matchInt false, .get, .line, .matchTok [97, 98], .unget 98, .copy 3, .skipWs, .matchInt true, .atEnd, .get]

example : (∀ c ∈ exInput, c ≠ 0) ∧ AdmAll 2 (AS.init exInput) exOps ∧ AdmAll 3 (AS.init exInput) exOps := by
  refine ⟨by decide, ?_, ?_⟩ <;> simp only [AdmAll, Adm, exOps] <;> decide

example : AS.run (AS.init exInput) exOps =
    [.int (.val (-12)), .char 10, .nat 2, .bool true, .bool true, .bytes [98, 99, 32], .unit, .int (.val 7),
     .bool true, .char 0] := by decide

example : run 2 (BS.init 2 exInput) exOps = AS.run (AS.init exInput) exOps := by decide

end PotasscoVerif.C09
