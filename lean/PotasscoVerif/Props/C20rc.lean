/-
  C20, second half — intrusive reference counting (`IntrusiveSharedPtr` / `RefCountable`, model in Model/ValueStore.lean `RC`).
  A history is ANY sequence of creating an object into a pointer, assigning one pointer to another (also to itself), swapping two
  pointers and resetting.  The proof carries "temporary references" (the by-value temporary of `p = IntrusiveSharedPtr(new T)`, the addRef-before-release
  order of assignment) as a ghost function `t`; every operation starts and ends with `t = 0`.
-/
import PotasscoVerif.Model.ValueStore
namespace PotasscoVerif.C20rc
open PotasscoVerif.ValueStore

inductive RCOp where
  | fresh (i : Nat) | assign (i j : Nat) | reset (i : Nat) | swap (i j : Nat)
deriving Repr, DecidableEq

def RC.step (r : RC) : RCOp → RC
  | .fresh i => r.fresh i
  | .assign i j => r.assign i j
  | .reset i => r.reset i
  | .swap i j => r.swap i j

def RC.init (n : Nat) : RC := { ptrs := List.replicate n none, counts := [] }

def occ (r : RC) (o : Nat) : Nat := r.ptrs.count (some o)

structure InvT (t : Nat → Nat) (r : RC) : Prop where
  exact     : ∀ o, r.count o = occ r o + t o
  nz        : ∀ e ∈ r.counts, e.2 ≠ 0
  nodup     : r.freed.Nodup
  freedDead : ∀ o ∈ r.freed, occ r o + t o = 0 ∧ 1 ≤ o ∧ o < r.nextId
  deadFreed : ∀ o, 1 ≤ o → o < r.nextId → occ r o + t o = 0 → o ∈ r.freed
  bound     : ∀ o, r.nextId ≤ o → occ r o + t o = 0
  zero      : occ r 0 + t 0 = 0
  pos       : 1 ≤ r.nextId

theorem InvT.congr {t t' : Nat → Nat} {r r' : RC} (h : InvT t r) (hc : r'.counts = r.counts) (hf : r'.freed = r.freed)
    (hn : r'.nextId = r.nextId) (hl : ∀ o, occ r' o + t' o = occ r o + t o) : InvT t' r' := by
  have hcount : ∀ o, r'.count o = r.count o := fun o => by unfold RC.count; rw [hc]
  exact ⟨fun o => by rw [hcount, hl]; exact h.exact o, hc ▸ h.nz, hf ▸ h.nodup,
    fun o ho => by rw [hl, hn]; exact h.freedDead o (hf ▸ ho),
    fun o h1 h2 h0 => hf ▸ h.deadFreed o h1 (hn ▸ h2) (hl o ▸ h0),
    fun o hb => by rw [hl]; exact h.bound o (hn ▸ hb), by rw [hl]; exact h.zero, hn ▸ h.pos⟩

theorem invT_ghost_congr {t t' : Nat → Nat} {r : RC} (h : InvT t r) (e : ∀ x, t' x = t x) : InvT t' r :=
  h.congr rfl rfl rfl fun x => by rw [e x]

/-- `List.count_set` without truncated subtraction -/
theorem count_set_add {l : List (Option Nat)} {i : Nat} (hi : i < l.length) (a x : Option Nat) :
    (l.set i a).count x + (if l[i] == x then 1 else 0) = l.count x + (if a == x then 1 else 0) := by
  have hc : (if l[i] == x then 1 else 0) ≤ l.count x := by
    split
    · rename_i e; exact List.count_pos_iff.mpr (eq_of_beq e ▸ List.getElem_mem hi)
    · exact Nat.zero_le _
  rw [List.count_set hi]; omega

theorem find?_congr {α} {l : List α} {p q : α → Bool} (h : ∀ a ∈ l, p a = q a) : l.find? p = l.find? q := by
  induction l with
  | nil => rfl
  | cons a l ih =>
    rw [List.find?_cons, List.find?_cons, h a List.mem_cons_self, ih fun b hb => h b (List.mem_cons_of_mem _ hb)]

theorem count_setCount (r : RC) (o n o' : Nat) : (r.setCount o n).count o' = if o' = o then n else r.count o' := by
  unfold RC.setCount RC.count
  rw [List.find?_append, List.find?_filter]
  by_cases h : o' = o
  · subst h
    rw [List.find?_eq_none.mpr fun x _ hx => bne_iff_ne.mp (of_decide_eq_true hx).1 (eq_of_beq (of_decide_eq_true hx).2),
      Option.none_or, if_pos rfl]
    split
    · rename_i hn; exact hn.symm
    · rw [List.find?_cons_of_pos (by simp)]; rfl
  · rw [if_neg h, find?_congr (q := (·.1 == o')) fun a _ => by
      cases hb : a.1 == o' with
      | false => exact decide_eq_false fun hc => Bool.false_ne_true hc.2
      | true => exact decide_eq_true ⟨bne_iff_ne.mpr fun e => h ((eq_of_beq hb).symm.trans e), rfl⟩]
    cases r.counts.find? (·.1 == o') with
    | some e => rfl
    | none =>
      rw [Option.none_or]
      split
      · rfl
      · rw [List.find?_cons_of_neg (by simpa using fun e => h e.symm)]; rfl

theorem ptrs_setCount (r : RC) (o n : Nat) : (r.setCount o n).ptrs = r.ptrs := rfl
theorem next_setCount (r : RC) (o n : Nat) : (r.setCount o n).nextId = r.nextId := rfl
theorem occ_setCount (r : RC) (o n x : Nat) : occ (r.setCount o n) x = occ r x := rfl
theorem freed_setCount (r : RC) (o n : Nat) : (r.setCount o n).freed = if n = 0 then r.freed ++ [o] else r.freed := rfl
theorem nz_setCount (r : RC) (o n : Nat) (h : ∀ e ∈ r.counts, e.2 ≠ 0) : ∀ e ∈ (r.setCount o n).counts, e.2 ≠ 0 := by
  intro e he
  simp only [RC.setCount, List.mem_append, List.mem_filter] at he
  rcases he with he | he
  · exact h e he.1
  · split at he
    · simp at he
    · simp only [List.mem_singleton] at he; subst he; assumption

theorem live_range {t : Nat → Nat} {r : RC} (h : InvT t r) {o : Nat} (hlive : occ r o + t o ≠ 0) : 1 ≤ o ∧ o < r.nextId := by
  constructor
  · cases Nat.eq_zero_or_pos o with
    | inl h0 => subst h0; exact absurd h.zero hlive
    | inr hp => exact hp
  · cases Nat.lt_or_ge o r.nextId with
    | inl hl => exact hl
    | inr hg => exact absurd (h.bound o hg) hlive

theorem setCount_inv (t t' : Nat → Nat) (r : RC) (o n : Nat) (h : InvT t r) (ho : n = occ r o + t' o) (hother : ∀ x, x ≠ o → t' x = t x)
    (hlive : occ r o + t o ≠ 0) : InvT t' (r.setCount o n) := by
  obtain ⟨ho1, ho2⟩ := live_range h hlive
  have hnf : o ∉ r.freed := fun hm => hlive (h.freedDead o hm).1
  have hsame : ∀ x, x ≠ o → occ r x + t' x = occ r x + t x := fun x hx => by rw [hother x hx]
  refine ⟨fun x => ?_, nz_setCount r o n h.nz, ?_, fun x hx => ?_, fun x h1 h2 h0 => ?_, fun x hx => ?_, ?_, h.pos⟩
  · rw [count_setCount]
    by_cases hx : x = o
    · rw [if_pos hx, hx]; exact ho
    · rw [if_neg hx]; exact (h.exact x).trans (hsame x hx).symm
  · rw [freed_setCount]
    split
    · exact List.nodup_append.mpr ⟨h.nodup, List.pairwise_singleton _ _,
        fun a ha b hb e => hnf (List.mem_singleton.mp hb ▸ e ▸ ha)⟩
    · exact h.nodup
  · rw [freed_setCount] at hx
    have hin : x ∈ r.freed ∨ (n = 0 ∧ x = o) := by
      split at hx
      · exact (List.mem_append.mp hx).imp id fun e => ⟨‹n = 0›, List.mem_singleton.mp e⟩
      · exact .inl hx
    rcases hin with hin | ⟨hn, rfl⟩
    · exact hsame x (fun e => hnf (e ▸ hin)) ▸ h.freedDead x hin
    · exact ⟨ho.symm.trans hn, ho1, ho2⟩
  · rw [freed_setCount]
    by_cases hx : x = o
    · subst hx
      rw [if_pos (ho.trans h0)]; exact List.mem_append_right _ List.mem_cons_self
    · have := h.deadFreed x h1 h2 ((hsame x hx).symm.trans h0)
      split
      · exact List.mem_append_left _ this
      · exact this
  · exact (hsame x (Nat.ne_of_gt (Nat.lt_of_lt_of_le ho2 hx))).trans (h.bound x hx)
  · exact (hsame 0 (Nat.ne_of_lt ho1)).trans h.zero

/-- 1 if `p` points to `x`: the unit by which the ghost count of temporary references changes.  All ghost updates are
    written with it, so that they cancel by arithmetic on the atoms `ind p x`. -/
def ind (p : Option Nat) (x : Nat) : Nat := if p = some x then 1 else 0

theorem ind_self (o : Nat) : ind (some o) o = 1 := if_pos rfl
theorem ind_ne {o x : Nat} (h : x ≠ o) : ind (some o) x = 0 := if_neg fun e => h (Option.some.inj e).symm
theorem ind_le_of {t : Nat → Nat} {p : Option Nat} (hp : ∀ o, p = some o → 1 ≤ t o) (x : Nat) : ind p x ≤ t x := by
  unfold ind; split
  · exact hp x ‹_›
  · exact Nat.zero_le _

theorem addRef_inv (t : Nat → Nat) (r : RC) (o : Nat) (h : InvT t r) (hlive : occ r o + t o ≠ 0) :
    InvT (fun x => t x + ind (some o) x) (r.addRef (some o)) :=
  setCount_inv t _ r o _ h (by rw [ind_self, h.exact o]; rfl) (fun x hx => by rw [ind_ne hx]; rfl) hlive

theorem release_inv (t : Nat → Nat) (r : RC) (p : Option Nat) (h : InvT t r) (hp : ∀ o, p = some o → 1 ≤ t o) :
    InvT (fun x => t x - ind p x) (r.release p) := by
  cases p with
  | none => exact h
  | some o =>
    have ht := hp o rfl
    exact setCount_inv t _ r o _ h (by rw [ind_self, h.exact o]; exact Nat.add_sub_assoc ht _) (fun x hx => by rw [ind_ne hx]; rfl)
      (Nat.ne_of_gt (Nat.lt_of_lt_of_le ht (Nat.le_add_left _ _)))

/-- a temporary reference of `p` becomes the pointer's, the pointer's old reference becomes temporary -/
theorem setptr_inv (t : Nat → Nat) (r : RC) (j : Nat) (p : Option Nat) (h : InvT t r) (hj : j < r.ptrs.length)
    (hp : ∀ o, p = some o → 1 ≤ t o) :
    InvT (fun x => t x + ind (r.ptrs[j]?).join x - ind p x) { r with ptrs := r.ptrs.set j p } := by
  refine h.congr rfl rfl rfl fun x => ?_
  have hc := count_set_add hj p (some x)
  have ht := ind_le_of hp x
  rw [List.getElem?_eq_getElem hj]
  simp only [beq_iff_eq] at hc
  show (r.ptrs.set j p).count (some x) + (t x + ind r.ptrs[j] x - ind p x) = r.ptrs.count (some x) + t x
  unfold ind at ht ⊢
  omega

theorem find?_eq_none_of_dead {t : Nat → Nat} {r : RC} (h : InvT t r) {o : Nat} (hd : occ r o + t o = 0) :
    r.counts.find? (·.1 == o) = none := by
  cases hf : r.counts.find? (·.1 == o) with
  | none => rfl
  | some e =>
    have hc : r.count o = e.2 := by unfold RC.count; rw [hf]; rfl
    exact absurd (hc.symm.trans ((h.exact o).trans hd)) (h.nz e (List.mem_of_find?_eq_some hf))

theorem newobj_inv (t : Nat → Nat) (r : RC) (h : InvT t r) :
    InvT (fun x => t x + ind (some r.nextId) x) { r with counts := r.counts ++ [(r.nextId, 1)], nextId := r.nextId + 1 } := by
  have h0 := h.bound r.nextId (Nat.le_refl _)
  have hpos := h.pos
  have hL : ∀ x, x ≠ r.nextId → occ r x + (t x + ind (some r.nextId) x) = occ r x + t x :=
    fun x hx => by rw [ind_ne hx]; rfl
  refine ⟨fun x => ?_, fun e he => ?_, h.nodup, fun x hx => ?_, fun x h1 h2 hz => ?_, fun x hx => ?_, ?_, Nat.succ_pos _⟩
  · show ((List.find? _ (r.counts ++ [(r.nextId, 1)])).map _).getD 0 = occ r x + (t x + _)
    rw [List.find?_append]
    by_cases hx : x = r.nextId
    · subst hx
      rw [find?_eq_none_of_dead h h0, Option.none_or, List.find?_cons_of_pos (by simp), ind_self, ← Nat.add_assoc, h0]; rfl
    · rw [List.find?_cons_of_neg (by simpa using fun e => hx e.symm), List.find?_nil, Option.or_none, hL x hx]
      exact h.exact x
  · rcases List.mem_append.mp he with he | he
    · exact h.nz e he
    · rw [List.mem_singleton.mp he]; exact Nat.one_ne_zero
  · obtain ⟨a, b, c⟩ := h.freedDead x hx
    exact ⟨(hL x (Nat.ne_of_lt c)).trans a, b, Nat.lt_succ_of_lt c⟩
  · have hx : x ≠ r.nextId := fun e => by
      have hz' : occ r x + (t x + ind (some r.nextId) x) = 0 := hz
      rw [e, ind_self] at hz'; exact Nat.succ_ne_zero _ ((Nat.add_assoc ..).trans hz')
    exact h.deadFreed x h1 (Nat.lt_of_le_of_ne (Nat.le_of_lt_succ h2) hx) ((hL x hx).symm.trans hz)
  · have hx' : r.nextId + 1 ≤ x := hx
    exact (hL x (Nat.ne_of_gt hx')).trans (h.bound x (Nat.le_of_succ_le hx'))
  · exact (hL 0 (Nat.ne_of_lt hpos)).trans h.zero

def Inv (r : RC) : Prop := InvT (fun _ => 0) r

theorem relSet_eq (r : RC) (j : Nat) (p q : Option Nat) :
    ({ (r.release q) with ptrs := (r.release q).ptrs.set j p } : RC) = ({ r with ptrs := r.ptrs.set j p } : RC).release q := by
  cases q <;> rfl

theorem relSet_inv (t : Nat → Nat) (r : RC) (j : Nat) (p : Option Nat) (h : InvT t r) (hj : j < r.ptrs.length) (hp : ∀ o, p = some o → 1 ≤ t o) :
    InvT (fun x => t x - ind p x) ({ (r.release (r.ptrs[j]?).join) with ptrs := (r.release (r.ptrs[j]?).join).ptrs.set j p } : RC) := by
  rw [relSet_eq]
  have hle := ind_le_of hp
  refine invT_ghost_congr (release_inv _ _ (r.ptrs[j]?).join (setptr_inv t r j p h hj hp) fun o e => ?_) fun x => ?_
  · have := hle o
    show 1 ≤ t o + ind (r.ptrs[j]?).join o - ind p o
    rw [e, ind_self]; omega
  · have := hle x
    show t x - ind p x = t x + ind (r.ptrs[j]?).join x - ind p x - ind (r.ptrs[j]?).join x
    omega

theorem reset_inv (r : RC) (i : Nat) (h : Inv r) : Inv (r.reset i) := by
  unfold RC.reset
  split
  · exact invT_ghost_congr (relSet_inv _ r i none h ‹_› nofun) fun x => rfl
  · exact h

theorem assign_inv (r : RC) (i j : Nat) (h : Inv r) : Inv (r.assign i j) := by
  unfold RC.assign
  split
  · rename_i hij
    dsimp only
    cases hp : (r.ptrs[i]?).join with
    | none => exact invT_ghost_congr (relSet_inv _ r j none h hij.2 nofun) fun x => rfl
    | some o =>
      have hmem : some o ∈ r.ptrs := by
        rw [List.getElem?_eq_getElem hij.1] at hp
        exact hp ▸ List.getElem_mem hij.1
      have hlive : occ r o + 0 ≠ 0 := Nat.ne_of_gt (List.count_pos_iff.mpr hmem)
      have h1 := addRef_inv _ r o h hlive
      have h2 := relSet_inv _ (r.addRef (some o)) j (some o) h1 hij.2 fun o' e => by cases e; rw [ind_self]; exact Nat.le_refl _
      exact invT_ghost_congr h2 fun x => (Nat.add_sub_cancel ..).symm
  · exact h

theorem fresh_inv (r : RC) (i : Nat) (h : Inv r) : Inv (r.fresh i) := by
  unfold RC.fresh
  split
  · rename_i hi
    dsimp only
    have h1 := newobj_inv _ r h
    have h2 := addRef_inv _ _ r.nextId h1 (by rw [ind_self]; exact Nat.succ_ne_zero _)
    have h3 := relSet_inv _ _ i (some r.nextId) h2 hi fun o' e => by cases e; rw [ind_self]; decide
    have h4 := release_inv _ _ (some r.nextId) h3 fun o' e => by cases e; rw [ind_self]; decide
    exact invT_ghost_congr h4 fun x => by
      show 0 = 0 + ind (some r.nextId) x + ind (some r.nextId) x - ind (some r.nextId) x - ind (some r.nextId) x
      rw [Nat.add_sub_cancel, Nat.add_sub_cancel]
  · exact h

theorem count_swap (l : List (Option Nat)) (i j : Nat) (hi : i < l.length) (hj : j < l.length) (x : Option Nat) :
    ((l.set i (l[j]?).join).set j (l[i]?).join).count x = l.count x := by
  rw [List.getElem?_eq_getElem hi, List.getElem?_eq_getElem hj]
  show ((l.set i l[j]).set j l[i]).count x = _
  have hj' : j < (l.set i l[j]).length := by rw [List.length_set]; exact hj
  -- cell `j` still holds `l[j]` after the first store, also when `i = j`
  have hjj : (l.set i l[j])[j] = l[j] := by rw [List.getElem_set]; split <;> rfl
  have h1 := count_set_add hj' l[i] x
  rw [hjj] at h1
  exact Nat.add_right_cancel (h1.trans (count_set_add hi l[j] x))

theorem swap_inv (r : RC) (i j : Nat) (h : Inv r) : Inv (r.swap i j) := by
  unfold RC.swap
  split
  · rename_i hij
    exact h.congr rfl rfl rfl fun o => congrArg (· + 0) (count_swap r.ptrs i j hij.1 hij.2 (some o))
  · exact h

theorem init_inv (n : Nat) : Inv (RC.init n) := by
  have ho : ∀ x, occ (RC.init n) x + 0 = 0 := fun x =>
    List.count_eq_zero.mpr fun hm => nomatch List.eq_of_mem_replicate hm
  exact ⟨fun o => (ho o).symm, nofun, .nil, nofun, fun o h1 h2 _ => absurd h1 (Nat.not_le.mpr h2), fun o _ => ho o, ho 0, Nat.le_refl _⟩

theorem step_inv (r : RC) (op : RCOp) (h : Inv r) : Inv (RC.step r op) := by
  cases op with
  | fresh i => exact fresh_inv r i h
  | assign i j => exact assign_inv r i j h
  | reset i => exact reset_inv r i h
  | swap i j => exact swap_inv r i j h

theorem run_inv (n : Nat) (ops : List RCOp) : Inv (ops.foldl RC.step (RC.init n)) := by
  suffices ∀ r, Inv r → Inv (ops.foldl RC.step r) from this _ (init_inv n)
  induction ops with
  | nil => intro r h; exact h
  | cons op ops ih => intro r h; exact ih _ (step_inv r op h)

/-- after any history the reference count of every object equals the number of pointers that refer to it -/
theorem C20_refcount_exact (n : Nat) (ops : List RCOp) (o : Nat) :
    (ops.foldl RC.step (RC.init n)).count o = (ops.foldl RC.step (RC.init n)).ptrs.count (some o) := by
  exact (run_inv n ops).exact o

/-- an object that was ever created has been destroyed exactly when no pointer refers to it any more -/
theorem C20_freed_iff_unreferenced (n : Nat) (ops : List RCOp) (o : Nat) (h1 : 1 ≤ o) (h2 : o < (ops.foldl RC.step (RC.init n)).nextId) :
    o ∈ (ops.foldl RC.step (RC.init n)).freed ↔ (ops.foldl RC.step (RC.init n)).ptrs.count (some o) = 0 := by
  have h := run_inv n ops
  exact ⟨fun hm => (h.freedDead o hm).1, h.deadFreed o h1 h2⟩

/-- … and never twice -/
theorem C20_freed_once (n : Nat) (ops : List RCOp) : (ops.foldl RC.step (RC.init n)).freed.Nodup := (run_inv n ops).nodup

/-- pointers only ever refer to objects that were created -/
theorem C20_pointers_valid (n : Nat) (ops : List RCOp) (o : Nat) (h : some o ∈ (ops.foldl RC.step (RC.init n)).ptrs) :
    1 ≤ o ∧ o < (ops.foldl RC.step (RC.init n)).nextId ∧ o ∉ (ops.foldl RC.step (RC.init n)).freed := by
  have hi := run_inv n ops
  have hc : 0 < (ops.foldl RC.step (RC.init n)).ptrs.count (some o) := List.count_pos_iff.mpr h
  have hl : occ (ops.foldl RC.step (RC.init n)) o + 0 ≠ 0 := Nat.ne_of_gt hc
  obtain ⟨a, b⟩ := live_range hi hl
  exact ⟨a, b, fun hm => hl (hi.freedDead o hm).1⟩

/-! a history with self-assignment, overwriting the last reference, and reset -/
example : let r := [RCOp.fresh 0, .assign 0 1, .assign 1 1, .fresh 0, .reset 1, .assign 2 0].foldl RC.step (RC.init 4)
    r.ptrs = [none, none, none, none] ∧ r.freed = [1, 2] ∧ r.counts = [] := by decide +kernel

example : let r := [RCOp.fresh 0, .fresh 1, .assign 0 2, .swap 0 1, .swap 2 2, .reset 1].foldl RC.step (RC.init 4)
    r.ptrs = [some 2, none, some 1, none] ∧ r.freed = [] ∧ r.counts = [(2, 1), (1, 1)] := by decide +kernel

end PotasscoVerif.C20rc
