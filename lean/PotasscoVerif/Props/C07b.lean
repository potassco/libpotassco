/-
  C07 (continued) — the smodels reader against a declarative grammar, `Prog7` (language combinators of Lemmas/AspifLang.lean; strict and
  lenient reading as for aspif, Props/C03c.lean): `C07_complete`, `C07_sound`.
-/
import PotasscoVerif.Props.C03c
import PotasscoVerif.Model.SmodelsIn
namespace PotasscoVerif.C07
open PotasscoVerif PotasscoVerif.CharStream PotasscoVerif.AspifIn PotasscoVerif.SmodelsIn PotasscoVerif.Decimal PotasscoVerif.AspifLang
open PotasscoVerif.BufferedStream (IntRes isWs isDigit I64MAX)
open PotasscoVerif.C03 (IsEol get_nl_inv skipWs_nws matchTok_inv matchTok_false hU32 numN_pos)

/-- `len neg a1 … alen`: the first `neg` atoms are the negative ones -/
def bodyL (s : Bool) : Lang (List Int) :=
  seq (posL s) (fun len => seq (posL s) (fun neg => seq (repL (atomL s) len) (fun as => ret (signed neg as))))

theorem Spec.body : Spec SmodelsIn.body bodyL := by
  unfold SmodelsIn.body
  exact Spec.bind Spec.pos (fun len => Spec.bind Spec.pos (fun neg => Spec.bind (Spec.rep0 Spec.atom len) (fun as => Spec.pure _)))

/-- the three leading numbers of a cardinality rule are `len neg bound`, of a weight/optimize rule `bound len neg` -/
def sumL (weights : Bool) (s : Bool) : Lang (Int × List (Int × Int)) :=
  seq (posL s) (fun x => seq (posL s) (fun y => seq (posL s) (fun z =>
    let bnd : Nat := if weights then x else z
    let len : Nat := if weights then y else x
    let neg : Nat := if weights then z else y
    if bnd > I32MAX.toNat then none' else
    seq (repL (atomL s) len) (fun as =>
      if weights then seq (repL (numN s true I32MAX.toNat) len) (fun ws => ret ((bnd : Int), (signed neg as).zip (ws.map (fun (w : Nat) => Int.ofNat w))))
      else ret ((bnd : Int), (signed neg as).map (fun l => (l, 1)))))))

/-- `Spec.bind` for a bind spelt as a `match`, as in `SmodelsIn.sum`.  The result type of `p` is fixed so that this `match` is compiled to
    the very matcher `sum` uses. -/
theorem Spec.bindMatch {β : Type} {p : P (List Nat)} {g : List Nat → P β} {L1 : Bool → Lang (List Nat)} {L2 : List Nat → Bool → Lang β}
    (hp : Spec p L1) (hg : ∀ x, Spec (g x) (L2 x)) :
    Spec (fun a => match p a with | .error l => .error l | .ok (x, a) => g x a) (fun s => seq (L1 s) (fun x => L2 x s)) := by
  have : (fun a => match p a with | .error l => .error l | .ok (x, a) => g x a) = fun a => p a >>= fun r => g r.1 r.2 :=
    funext fun a => by cases p a <;> rfl
  rw [this]; exact Spec.bind hp hg

theorem Spec.sum (weights : Bool) : Spec (SmodelsIn.sum weights) (sumL weights) := by
  unfold SmodelsIn.sum sumL
  refine Spec.bind Spec.pos (fun x => Spec.bind Spec.pos (fun y => Spec.bind Spec.pos (fun z => ?_)))
  refine Spec.ite _ Spec.error ?_
  refine Spec.bindMatch (Spec.rep0 Spec.atom _) (fun as => ?_)
  exact Spec.ite _ (Spec.bindMatch (Spec.rep0 (Spec.posMax _ (by decide)) _) (fun ws => Spec.ok _)) (Spec.ok _)

/-- one rule of type `rt`; the value is the delivered call (none for the `90 0` step marker) and the next minimize priority -/
def ruleL (ext : Bool) (rt prio : Nat) : Bool → Lang (Option Call × Nat) := fun s =>
  if rt = Choice ∨ rt = Disjunctive then
    seq (atomL s) (fun n => seq (repL (atomL s) n) (fun hd => seq (bodyL s) (fun b => ret (some (.rule (if rt = Choice then 1 else 0) hd b), prio))))
  else if rt = Basic then seq (atomL s) (fun h => seq (bodyL s) (fun b => ret (some (.rule 0 [h] b), prio)))
  else if rt = Cardinality ∨ rt = Weight then
    seq (atomL s) (fun h => seq (sumL (decide (rt = Weight)) s) (fun r => ret (some (.sumRule 0 [h] r.1 r.2), prio)))
  else if rt = Optimize then seq (sumL true s) (fun r => ret (some (.minimize prio r.2), prio + 1))
  else if rt = ClaspIncrement then
    (if (!ext) = true then none' else seq (posL s) (fun z => if z ≠ 0 then none' else ret (none, prio)))
  else if rt = ClaspAssignExt then
    (if (!ext) = true then none' else seq (atomL s) (fun h => seq (numN s true 2) (fun v => ret (some (.external h ((v ^^^ 3) - 1)), prio))))
  else if rt = ClaspReleaseExt then
    (if (!ext) = true then none' else seq (atomL s) (fun h => ret (some (.external h 3), prio)))
  else none'

theorem Spec.ruleOf (ext : Bool) (rt prio : Nat) : Spec (SmodelsIn.ruleOf ext rt prio) (ruleL ext rt prio) := by
  unfold SmodelsIn.ruleOf ruleL
  refine Spec.ite _ (Spec.bind Spec.atom (fun n => Spec.bind (Spec.rep0 Spec.atom n) (fun hd => Spec.bind Spec.body (fun b => Spec.pure _)))) ?_
  refine Spec.ite _ (Spec.bind Spec.atom (fun h => Spec.bind Spec.body (fun b => Spec.pure _))) ?_
  refine Spec.ite _ (Spec.bind Spec.atom (fun h => Spec.bind (Spec.sum _) (fun r => by obtain ⟨bnd, wl⟩ := r; exact Spec.pure _))) ?_
  refine Spec.ite _ (Spec.bind (Spec.sum _) (fun r => by obtain ⟨bnd, wl⟩ := r; exact Spec.pure _)) ?_
  refine Spec.ite _ (Spec.ite _ Spec.error (Spec.bind Spec.pos (fun z => Spec.ite _ Spec.error (Spec.pure _)))) ?_
  refine Spec.ite _ (Spec.ite _ Spec.error (Spec.bind Spec.atom (fun h => Spec.bind (Spec.posMax 2 (by decide)) (fun v => Spec.pure _)))) ?_
  exact Spec.ite _ (Spec.ite _ Spec.error (Spec.bind Spec.atom (fun h => Spec.pure _))) Spec.error

/-- the rules of a step up to and including the terminating `0`; `prio` is the priority the next minimize statement gets -/
inductive Rules (s ext : Bool) : Bool → Nat → List Nat → List Call → Prop
  | done {lead : Bool} {prio : Nat} {w : List Nat} : numN s lead U32MAX w 0 → Rules s ext lead prio w []
  | rule {lead : Bool} {prio prio' : Nat} {w1 w2 w3 : List Nat} {rt : Nat} {oc : Option Call} {cs : List Call} :
      numN s lead U32MAX w1 rt → rt ≠ 0 → ruleL ext rt prio s w2 (oc, prio') → Rules s ext true prio' w3 cs →
      Rules s ext lead prio (w1 ++ (w2 ++ w3)) (oc.toList ++ cs)

theorem rulesLoop_sound (ext lead : Bool) : ∀ (f : Nat) (a : AS) (prio : Nat) (acc cs : List Call) (a1 : AS), rulesLoop ext f a prio acc = (cs, .ok a1) →
    ∃ w cs', a.rest = w ++ a1.rest ∧ Rules false ext lead prio w cs' ∧ cs = acc.reverse ++ cs' := by
  intro f
  induction f generalizing lead with
  | zero => intro a prio acc cs a1 h; cases h
  | succ f ih =>
    intro a prio acc cs a1 h
    rw [C04.rulesLoop_succ] at h
    split at h
    · cases h
    · rename_i rt a0 hp
      obtain ⟨w1, e1, l1⟩ := posMax_sound lead U32MAX hU32 a rt a0 hp
      split at h
      · rename_i h0
        cases h; subst h0
        exact ⟨w1, [], e1, .done l1, (List.append_nil _).symm⟩
      · rename_i h0
        split at h
        · cases h
        · rename_i c prio' a2 hr
          obtain ⟨w2, e2, l2⟩ := (Spec.ruleOf ext rt prio).sound a0 (c, prio') a2 hr
          obtain ⟨w3, cs', e3, l3, ec⟩ := ih true a2 prio' _ cs a1 h
          exact ⟨w1 ++ (w2 ++ w3), c.toList ++ cs', by rw [e1, e2, e3]; simp, .rule l1 h0 l2 l3, ec.trans (C03.push_reverse c acc cs')⟩

theorem rules_nds {ext : Bool} {prio : Nat} {w : List Nat} {cs : List Call} (h : Rules true ext true prio w cs) (k : List Nat) : NDS (w ++ k) := by
  cases h with
  | done hl => exact num_nds hl k
  | rule hl _ _ _ => rw [List.append_assoc]; exact num_nds hl _

theorem rules_pos {s ext lead : Bool} {prio : Nat} {w : List Nat} {cs : List Call} (h : Rules s ext lead prio w cs) : 1 ≤ w.length := by
  cases h with
  | done hl => exact numN_pos hl
  | rule hl _ _ _ => have := numN_pos hl; simp only [List.length_append]; omega

theorem rulesLoop_complete (ext : Bool) : ∀ (lead : Bool) (prio : Nat) (w : List Nat) (cs : List Call), Rules true ext lead prio w cs →
    ∀ (f : Nat) (a : AS) (acc : List Call) (k : List Nat), w.length < f → a.rest = w ++ k → NDS k →
    ∃ a', rulesLoop ext f a prio acc = (acc.reverse ++ cs, .ok a') ∧ a'.rest = k := by
  intro lead prio w cs hd f
  induction f generalizing lead prio w cs with
  | zero => intro a acc k hf; omega
  | succ f ih =>
    intro a acc k hf hr hk
    rw [C04.rulesLoop_succ]
    cases hd with
    | done hl =>
      obtain ⟨a1, e1, r1⟩ := posMax_complete lead U32MAX hU32 w 0 a k hl hr hk
      exact ⟨a1, by rw [show pos a = _ from e1]; simp, r1⟩
    | @rule _ _ prio' w1 w2 w3 rt oc cs hl h0 hrule hrest =>
      have hs3 : NDS (w3 ++ k) := rules_nds hrest k
      have hs2 : NDS (w2 ++ (w3 ++ k)) := (Spec.ruleOf ext rt prio).safe w2 (oc, prio') _ hrule hs3
      obtain ⟨a1, e1, r1⟩ := posMax_complete lead U32MAX hU32 w1 rt a (w2 ++ (w3 ++ k)) hl (by rw [hr]; simp only [List.append_assoc]) hs2
      obtain ⟨a2, e2, r2⟩ := (Spec.ruleOf ext rt prio).complete w2 (oc, prio') a1 (w3 ++ k) hrule r1 hs3
      have hf3 : w3.length < f := by have := numN_pos hl; simp only [List.length_append] at hf; omega
      rw [show pos a = _ from e1]; simp only [h0, ↓reduceIte, e2]
      rw [← C03.push_reverse]
      exact ih true prio' w3 cs hrest a2 _ k hf3 r2 hk

attribute [local irreducible] AspifIn.posMax

def mkCompute (val : Bool) : Nat → Call := fun x => .rule 0 [] [if val then -(x : Int) else (x : Int)]
def mkExt : Nat → Call := fun x => .external x 0

inductive Atoms0 (s : Bool) (mk : Nat → Call) : Bool → List Nat → List Call → Prop
  | done {lead : Bool} {w : List Nat} : numN s lead Gen.atomMax w 0 → Atoms0 s mk lead w []
  | atom {lead : Bool} {w1 w2 : List Nat} {x : Nat} {cs : List Call} : numN s lead Gen.atomMax w1 x → x ≠ 0 → Atoms0 s mk true w2 cs →
      Atoms0 s mk lead (w1 ++ w2) (mk x :: cs)

theorem hAtomMax : ((Gen.atomMax : Nat) : Int) < I64MAX := by decide

theorem atoms0_nds {mk : Nat → Call} {w : List Nat} {cs : List Call} (h : Atoms0 true mk true w cs) (k : List Nat) : NDS (w ++ k) := by
  cases h with
  | done hl => exact num_nds hl k
  | atom hl _ _ => rw [List.append_assoc]; exact num_nds hl _

theorem atoms0_pos {s lead : Bool} {mk : Nat → Call} {w : List Nat} {cs : List Call} (h : Atoms0 s mk lead w cs) : 1 ≤ w.length := by
  cases h with
  | done hl => exact numN_pos hl
  | atom hl _ _ => have := numN_pos hl; simp only [List.length_append]; omega

section
-- `computeLoop` and `extLoop` are the loops of this shape: atoms up to `0`, `mk x` delivered for each atom `x`
variable {mk : Nat → Call} {loop : Nat → AS → List Call → List Call × Except Nat AS}
  (h0 : ∀ a acc, loop 0 a acc = (acc.reverse, .error a.line))
  (hs : ∀ f a acc, loop (f + 1) a acc = (match posMax Gen.atomMax a with
     | .error l => (acc.reverse, .error l)
     | .ok (x, a1) => if x = 0 then (acc.reverse, .ok a1) else loop f a1 (mk x :: acc)))
include hs

include h0 in
theorem atoms0_sound (lead : Bool) : ∀ (f : Nat) (a : AS) (acc cs : List Call) (a1 : AS), loop f a acc = (cs, .ok a1) →
    ∃ w cs', a.rest = w ++ a1.rest ∧ Atoms0 false mk lead w cs' ∧ cs = acc.reverse ++ cs' := by
  intro f
  induction f generalizing lead with
  | zero => intro a acc cs a1 h; rw [h0] at h; cases h
  | succ f ih =>
    intro a acc cs a1 h
    rw [hs] at h
    split at h
    · cases h
    · rename_i x a0 hp
      obtain ⟨w1, e1, l1⟩ := posMax_sound lead Gen.atomMax hAtomMax a x a0 hp
      split at h
      · rename_i h0
        cases h; subst h0
        exact ⟨w1, [], e1, .done l1, (List.append_nil _).symm⟩
      · rename_i h0
        obtain ⟨w2, cs', e2, l2, ec⟩ := ih true a0 _ cs a1 h
        exact ⟨w1 ++ w2, mk x :: cs', by rw [e1, e2]; simp, .atom l1 h0 l2, by rw [ec]; simp⟩

theorem atoms0_complete : ∀ (lead : Bool) (w : List Nat) (cs : List Call), Atoms0 true mk lead w cs →
    ∀ (f : Nat) (a : AS) (acc : List Call) (k : List Nat), w.length < f → a.rest = w ++ k → NDS k →
    ∃ a', loop f a acc = (acc.reverse ++ cs, .ok a') ∧ a'.rest = k := by
  intro lead w cs hd f
  induction f generalizing lead w cs with
  | zero => intro a acc k hf; omega
  | succ f ih =>
    intro a acc k hf hr hk
    rw [hs]
    cases hd with
    | done hl =>
      obtain ⟨a1, e1, r1⟩ := posMax_complete lead Gen.atomMax hAtomMax w 0 a k hl hr hk
      exact ⟨a1, by rw [e1]; simp, r1⟩
    | @atom _ w1 w2 x cs hl h0 hrest =>
      obtain ⟨a1, e1, r1⟩ := posMax_complete lead Gen.atomMax hAtomMax w1 x a (w2 ++ k) hl (by rw [hr, List.append_assoc]) (atoms0_nds hrest k)
      have hlen := numN_pos hl
      obtain ⟨a2, e2, r2⟩ := ih true w2 cs hrest a1 (mk x :: acc) k (by simp only [List.length_append] at hf; omega) r1 hk
      exact ⟨a2, by rw [e1]; simp only [h0, ↓reduceIte]; rw [e2]; simp, r2⟩
end

theorem get_eol {a : AS} {eol k : List Nat} (he : IsEol true eol) (hr : a.rest = eol ++ k) : a.get.1 = 10 ∧ a.get.2.rest = k := by
  rcases he with rfl | rfl | h
  · rw [AS.get, hr]; exact ⟨rfl, rfl⟩
  · rw [AS.get, hr]; exact ⟨rfl, rfl⟩
  · cases h.1

def NameOk (nm : List Nat) : Prop := ∀ c ∈ nm, c ≠ 0 ∧ c ≠ 10 ∧ c ≠ 13

theorem nameLoop_sound : ∀ (f : Nat) (a : AS) (acc nm : List Nat) (a' : AS), nameLoop f a acc = .ok (nm, a') →
    ∃ w eol, a.rest = w ++ (eol ++ a'.rest) ∧ nm = acc.reverse ++ w ∧ NameOk w ∧ IsEol false eol := by
  intro f
  induction f with
  | zero => intro a acc nm a' h; cases h
  | succ f ih =>
    intro a acc nm a' h
    simp only [nameLoop] at h
    rcases a.get_cases with ⟨_, h0, _⟩ | ⟨h10, _⟩ | ⟨er, _, h0, h10, h13⟩
    · rw [h0] at h; cases h
    · rw [h10] at h; cases h
      obtain ⟨eol, e, he⟩ := get_nl_inv a h10
      exact ⟨[], eol, e, (List.append_nil _).symm, nofun, he⟩
    · rw [if_neg (mt beq_iff_eq.mp h10), if_neg (mt beq_iff_eq.mp h0)] at h
      obtain ⟨w, eol, e, en, hw, he⟩ := ih _ _ _ _ h
      exact ⟨a.get.1 :: w, eol, by rw [er, e]; rfl, by rw [en, List.reverse_cons, List.append_assoc]; rfl,
        List.forall_mem_cons.mpr ⟨⟨h0, h10, h13⟩, hw⟩, he⟩

theorem nameLoop_complete (nm : List Nat) (hnm : NameOk nm) (eol : List Nat) (he : IsEol true eol) (k : List Nat) :
    ∀ (f : Nat) (a : AS) (acc : List Nat), nm.length < f → a.rest = nm ++ (eol ++ k) →
    ∃ a', nameLoop f a acc = .ok (acc.reverse ++ nm, a') ∧ a'.rest = k := by
  intro f
  induction f generalizing nm with
  | zero => intro a acc hf; omega
  | succ f ih =>
    intro a acc hf hr
    simp only [nameLoop]
    cases nm with
    | nil =>
      have hg := get_eol he hr
      exact ⟨a.get.2, by rw [hg.1, List.append_nil]; rfl, hg.2⟩
    | cons c r =>
      obtain ⟨⟨h0, h10, h13⟩, hnm⟩ := List.forall_mem_cons.mp hnm
      have hg := AspifRT.get_plain a c _ hr h0 h13 h10
      obtain ⟨a2, e2, r2⟩ := ih r hnm a.get.2 (c :: acc) (Nat.lt_of_succ_lt_succ hf) (congrArg (·.2.rest) hg)
      refine ⟨a2, ?_, r2⟩
      rw [congrArg Prod.fst hg, if_neg (mt beq_iff_eq.mp h10), if_neg (mt beq_iff_eq.mp h0), e2, List.reverse_cons, List.append_assoc]; rfl

theorem symEntry_complete {lead : Bool} {w1 nm eol r : List Nat} {x : Nat} (hl : numN true lead Gen.atomMax w1 x) (hnm : NameOk nm) (he : IsEol true eol)
    {a : AS} (hr : a.rest = w1 ++ ([32] ++ (nm ++ (eol ++ r)))) :
    ∃ a1 a3, posMax Gen.atomMax a = .ok (x, a1) ∧ nameLoop (a1.get.2.rest.length + 1) a1.get.2 [] = .ok (nm, a3) ∧ a3.rest = r := by
  obtain ⟨a1, e1, r1⟩ := posMax_complete lead Gen.atomMax hAtomMax w1 x a _ hl hr (NDS_cons rfl)
  have hg : a1.get.2.rest = nm ++ (eol ++ r) := congrArg (·.2.rest) (AspifRT.get_plain a1 32 _ r1 (by decide) (by decide) (by decide))
  obtain ⟨a3, e3, r3⟩ := nameLoop_complete nm hnm eol he r (a1.get.2.rest.length + 1) a1.get.2 [] (by rw [hg, List.length_append]; omega) hg
  exact ⟨a1, a3, e1, e3, r3⟩

theorem symbolsLoop_zero (a : AS) (acc : List Call) : symbolsLoop 0 a acc = (acc.reverse, .error a.line) := rfl
theorem symbolsLoop_succ (f : Nat) (a : AS) (acc : List Call) : symbolsLoop (f + 1) a acc =
    (match posMax Gen.atomMax a with
     | .error l => (acc.reverse, .error l)
     | .ok (x, a1) =>
       if x = 0 then (acc.reverse, .ok a1) else
       match nameLoop ((a1.get.2).rest.length + 1) a1.get.2 [] with
       | .error l => (acc.reverse, .error l)
       | .ok (nm, a3) => symbolsLoop f a3 (.output nm [(x : Int)] :: acc)) := rfl

/-- symbol table: `atom`, one separator, the name up to the end of the line; terminated by `0` -/
inductive Syms (s : Bool) : Bool → List Nat → List Call → Prop
  | done {lead : Bool} {w : List Nat} : numN s lead Gen.atomMax w 0 → Syms s lead w []
  | sym {lead : Bool} {w1 sep nm eol w2 : List Nat} {x : Nat} {cs : List Call} : numN s lead Gen.atomMax w1 x → x ≠ 0 → SepOk s sep → NameOk nm →
      IsEol s eol → Syms s false w2 cs → Syms s lead (w1 ++ (sep ++ (nm ++ (eol ++ w2)))) (.output nm [(x : Int)] :: cs)

theorem symbolsLoop_sound (lead : Bool) : ∀ (f : Nat) (a : AS) (acc cs : List Call) (a1 : AS), symbolsLoop f a acc = (cs, .ok a1) →
    ∃ w cs', a.rest = w ++ a1.rest ∧ Syms false lead w cs' ∧ cs = acc.reverse ++ cs' := by
  intro f
  induction f generalizing lead with
  | zero => intro a acc cs a1 h; cases h
  | succ f ih =>
    intro a acc cs a1 h
    rw [symbolsLoop_succ] at h
    split at h
    · cases h
    · rename_i x a0 hp
      obtain ⟨w1, e1, l1⟩ := posMax_sound lead Gen.atomMax hAtomMax a x a0 hp
      split at h
      · rename_i h0
        cases h; subst h0
        exact ⟨w1, [], e1, .done l1, (List.append_nil _).symm⟩
      · rename_i h0
        obtain ⟨sep, es, hsep⟩ := get_inv a0
        split at h
        · cases h
        · rename_i nm a3 hn
          obtain ⟨w, eol, en, enm, hnm, he⟩ := nameLoop_sound _ _ _ _ _ hn
          obtain rfl : nm = w := enm
          obtain ⟨w2, cs', e2, l2, ec⟩ := ih false a3 _ cs a1 h
          exact ⟨w1 ++ (sep ++ (nm ++ (eol ++ w2))), .output nm [(x : Int)] :: cs', by rw [e1, es, en, e2]; simp,
            .sym l1 h0 hsep hnm he l2, by rw [ec]; simp⟩

theorem syms_nds {w : List Nat} {cs : List Call} (h : Syms true true w cs) (k : List Nat) : NDS (w ++ k) := by
  cases h with
  | done hl => exact num_nds hl k
  | sym hl _ _ _ _ _ => rw [List.append_assoc]; exact num_nds hl _

theorem syms_length {s lead : Bool} {w : List Nat} {cs : List Call} (h : Syms s lead w cs) : cs.length < w.length := by
  induction h with
  | done hl => exact numN_pos hl
  | sym hl _ _ _ _ _ ih => have := numN_pos hl; simp only [List.length_append, List.length_cons]; omega

theorem syms_pos {s lead : Bool} {w : List Nat} {cs : List Call} (h : Syms s lead w cs) : 1 ≤ w.length :=
  Nat.lt_of_le_of_lt (Nat.zero_le _) (syms_length h)

theorem symbolsLoop_complete_fuel : ∀ (lead : Bool) (w : List Nat) (cs : List Call), Syms true lead w cs →
    ∀ (f : Nat) (a : AS) (acc : List Call) (k : List Nat), cs.length < f → a.rest = w ++ k → NDS k →
    ∃ a', symbolsLoop f a acc = (acc.reverse ++ cs, .ok a') ∧ a'.rest = k := by
  intro lead w cs hd f
  induction f generalizing lead w cs with
  | zero => intro a acc k hf; omega
  | succ f ih =>
    intro a acc k hf hr hk
    rw [symbolsLoop_succ]
    cases hd with
    | done hl =>
      obtain ⟨a1, e1, r1⟩ := posMax_complete lead Gen.atomMax hAtomMax w 0 a k hl hr hk
      exact ⟨a1, by rw [e1]; simp, r1⟩
    | @sym _ w1 sep nm eol w2 x cs hl h0 hsep hnm he hrest =>
      obtain rfl : sep = [32] := hsep
      obtain ⟨a1, a3, e1, e3, r3⟩ := symEntry_complete hl hnm he (r := w2 ++ k) (by rw [hr]; simp only [List.append_assoc])
      obtain ⟨a4, e4, r4⟩ := ih false w2 cs hrest a3 (.output nm [(x : Int)] :: acc) k (Nat.lt_of_succ_lt_succ hf) r3 hk
      refine ⟨a4, ?_, r4⟩
      rw [e1]
      simp only [h0, ↓reduceIte, e3]
      rw [e4]; simp

theorem symbolsLoop_complete : ∀ (lead : Bool) (w : List Nat) (cs : List Call), Syms true lead w cs →
    ∀ (f : Nat) (a : AS) (acc : List Call) (k : List Nat), w.length < f → a.rest = w ++ k → NDS k →
    ∃ a', symbolsLoop f a acc = (acc.reverse ++ cs, .ok a') ∧ a'.rest = k :=
  fun lead w cs h f a acc k hf => symbolsLoop_complete_fuel lead w cs h f a acc k (Nat.lt_trans (syms_length h) hf)

theorem matchTok_skipWs {a : AS} {ws tok r : List Nat} (hr : a.rest = ws ++ (tok ++ r)) (hws : Filler ws) (hnw : NWS (tok ++ r)) :
    (a.skipWs.matchTok tok).1 = true ∧ (a.skipWs.matchTok tok).2.rest = r := by
  rw [C03.matchTok_append (skipWs_spec a ws _ hr hws hnw)]; exact ⟨rfl, rfl⟩

def kwBp : List Nat := [66, 43]
def kwBm : List Nat := [66, 45]

/-- filler, the section name, the end of the line, atoms up to `0`: each atom is delivered as an integrity constraint -/
def ComputeSec (s : Bool) (tok : List Nat) (val : Bool) (w : List Nat) (cs : List Call) : Prop :=
  ∃ ws eol w2, w = ws ++ (tok ++ (eol ++ w2)) ∧ Filler ws ∧ IsEol s eol ∧ Atoms0 s (mkCompute val) false w2 cs

theorem compute_sound (tok : List Nat) (val : Bool) (a : AS) (cs : List Call) (a1 : AS) (h : compute tok val a = (cs, .ok a1)) :
    ∃ w, a.rest = w ++ a1.rest ∧ ComputeSec false tok val w cs := by
  unfold compute at h
  simp only [] at h
  obtain ⟨ws, e0, hws⟩ := skipWs_inv a
  split at h; cases h; rename_i hok
  have em := matchTok_inv a.skipWs tok (by simpa using hok)
  generalize (a.skipWs.matchTok tok).2 = a0 at h em
  split at h; cases h; rename_i hc
  obtain ⟨eol, e2, he⟩ := get_nl_inv a0 (by simpa using hc)
  obtain ⟨w2, cs', e3, l3, rfl⟩ := atoms0_sound (C04.computeLoop_zero val) (C04.computeLoop_succ val) false _ _ _ _ _ h
  exact ⟨ws ++ (tok ++ (eol ++ w2)), by rw [e0, em, e2, e3]; simp, ws, eol, w2, rfl, hws, he, l3⟩

theorem compute_complete (tok : List Nat) (htok : ∃ c t, tok = c :: t ∧ isWs c = false) (val : Bool) (w : List Nat) (cs : List Call) (a : AS) (k : List Nat)
    (hw : ComputeSec true tok val w cs) (hr : a.rest = w ++ k) (hk : NDS k) : ∃ a', compute tok val a = (cs, .ok a') ∧ a'.rest = k := by
  obtain ⟨ws, eol, w2, rfl, hws, he, hat⟩ := hw
  have hnw : NWS (tok ++ (eol ++ (w2 ++ k))) := by
    obtain ⟨c, t, rfl, hc⟩ := htok
    intro x r ex; cases ex; exact hc
  obtain ⟨hm1, hm2⟩ := matchTok_skipWs (tok := tok) (by rw [hr]; simp only [List.append_assoc]) hws hnw
  generalize hA0 : (a.skipWs.matchTok tok).2 = a0 at hm2
  obtain ⟨hg1, hg2⟩ := get_eol he hm2
  obtain ⟨a3, e3, r3⟩ := atoms0_complete (C04.computeLoop_succ val) false w2 cs hat (a0.get.2.rest.length + 1) a0.get.2 [] k (by rw [hg2, List.length_append]; omega) hg2 hk
  refine ⟨a3, ?_, r3⟩
  unfold compute
  simp only [hm1, Bool.not_true, Bool.false_eq_true, ↓reduceIte, hA0, hg1, ne_eq, not_true_eq_false]
  simpa using e3

theorem computeSec_nds {tok : List Nat} (htok : ∀ k, NDS (tok ++ k)) {val : Bool} {w : List Nat} {cs : List Call}
    (h : ComputeSec true tok val w cs) (k : List Nat) : NDS (w ++ k) := by
  obtain ⟨ws, eol, w2, rfl, hws, _, _⟩ := h
  rw [List.append_assoc, List.append_assoc]
  exact hws.append_nds (htok _)

/-- optionally `E` and atoms up to `0` (each delivered as a free external); then the number of models (not delivered) -/
def ExtraSec (s : Bool) (w : List Nat) (cs : List Call) : Prop :=
  (∃ ws w2 wn n, w = ws ++ (69 :: (w2 ++ wn)) ∧ Filler ws ∧ Atoms0 s mkExt false w2 cs ∧ numN s true U32MAX wn n) ∨
  (∃ n, numN s true U32MAX w n ∧ cs = [])

theorem numN_prepend {lead : Bool} {m : Nat} {ws w : List Nat} {n : Nat} (hws : Filler ws) (h : numN false lead m w n) : numN false true m (ws ++ w) n := by
  obtain ⟨ws', sg, ds, rfl, h1, h2, h3, h4, h5, _⟩ := h
  exact ⟨ws ++ ws', sg, ds, (List.append_assoc ..).symm, hws.append h1, h2, h3, h4, h5, nofun⟩

theorem extra_sound (a : AS) (cs : List Call) (a3 : AS) (h : extra a = (cs, .ok a3)) : ∃ w, a.rest = w ++ a3.rest ∧ ExtraSec false w cs := by
  unfold extra at h
  simp only [] at h
  obtain ⟨ws, e0, hws⟩ := skipWs_inv a
  generalize hq : (if (a.skipWs.matchTok [69]).1 = true then _ else _ : List Call × Except Nat AS) = q at h
  obtain ⟨cs', r⟩ := q
  simp only at h
  split at h; cases h; rename_i a2
  split at h; cases h; rename_i n a3' hp
  cases h
  obtain ⟨wn, e3, l3⟩ := posMax_sound true U32MAX hU32 a2 n a3 hp
  by_cases hok : (a.skipWs.matchTok [69]).1 = true
  · rw [if_pos hok] at hq
    obtain ⟨w2, cs', e2, l2, rfl⟩ := atoms0_sound C04.extLoop_zero C04.extLoop_succ false _ _ _ _ _ hq
    exact ⟨ws ++ (69 :: (w2 ++ wn)), by rw [e0, matchTok_inv _ _ hok, e2, e3]; simp, .inl ⟨ws, w2, wn, n, rfl, hws, l2, l3⟩⟩
  · rw [if_neg hok] at hq; cases hq
    exact ⟨ws ++ wn, by rw [e0, ← matchTok_false _ _ (by simpa using hok), e3, List.append_assoc], .inr ⟨n, numN_prepend hws l3, rfl⟩⟩

theorem extra_complete (w : List Nat) (cs : List Call) (a : AS) (k : List Nat) (hw : ExtraSec true w cs) (hr : a.rest = w ++ k) (hk : NDS k) :
    ∃ a', extra a = (cs, .ok a') ∧ a'.rest = k := by
  rcases hw with ⟨ws, w2, wn, n, rfl, hws, hat, hn⟩ | ⟨n, hn, rfl⟩
  · obtain ⟨hm1, hm2⟩ := matchTok_skipWs (a := a) (tok := [69]) (r := w2 ++ (wn ++ k)) (by rw [hr]; simp only [List.append_assoc, List.cons_append, List.nil_append]) hws (fun c r e => by cases e; rfl)
    generalize hA1 : (a.skipWs.matchTok [69]).2 = a1 at hm2
    obtain ⟨a2, e2, r2⟩ := atoms0_complete C04.extLoop_succ false w2 cs hat (a1.rest.length + 1) a1 [] (wn ++ k) (by rw [hm2, List.length_append]; omega) hm2 (num_nds hn k)
    obtain ⟨a3, e3, r3⟩ := posMax_complete true U32MAX hU32 wn n a2 k hn r2 hk
    refine ⟨a3, ?_, r3⟩
    unfold extra
    simp only [hm1, ↓reduceIte, hA1, e2, show AspifIn.pos a2 = _ from e3, List.reverse_nil, List.nil_append]
  · -- no `E`: the count of models follows the filler directly
    obtain ⟨ws, sg, ds, rfl, hws, hds, hv, h1, h2, _⟩ := hn
    obtain ⟨c, t, ec, hcw, hc69⟩ : ∃ c t, Sign.text sg ++ ds = c :: t ∧ isWs c = false ∧ c ≠ 69 := by
      cases sg with
      | none =>
        obtain ⟨d, t, rfl⟩ := List.exists_cons_of_ne_nil hds.1
        have hd := hds.2 d List.mem_cons_self
        exact ⟨d, t, rfl, Bool.eq_false_iff.mpr fun hw => Bool.false_ne_true ((ws_not_digit hw).symm.trans hd), fun e => by subst e; cases hd⟩
      | plus => exact ⟨43, ds, rfl, rfl, by decide⟩
      | minus => exact ⟨45, ds, rfl, rfl, by decide⟩
    have hs : a.skipWs.rest = Sign.text sg ++ ds ++ k :=
      skipWs_spec a ws _ (by rw [hr]; simp only [List.append_assoc]) hws (by rw [ec]; intro x r e; cases e; exact hcw)
    have hm := C03.matchTok_head (a := a.skipWs) (w := []) (by rw [hs, ec]; rfl) hc69
    obtain ⟨a3, e3, r3⟩ := posMax_complete false U32MAX hU32 (Sign.text sg ++ ds) n { a.skipWs with canUnget := false } k
      ⟨[], sg, ds, rfl, .nil, hds, hv, h1, h2, nofun⟩ hs hk
    refine ⟨a3, ?_, r3⟩
    unfold extra
    simp only [hm, Bool.false_eq_true, ↓reduceIte, show AspifIn.pos _ = _ from e3]

theorem extraSec_nds {w : List Nat} {cs : List Call} (h : ExtraSec true w cs) (k : List Nat) : NDS (w ++ k) := by
  rcases h with ⟨ws, w2, wn, n, rfl, hws, _, _⟩ | ⟨n, hn, _⟩
  · rw [List.append_assoc]; exact hws.append_nds (NDS_cons rfl)
  · exact num_nds hn k

/-- rules, symbol table, `B+`, `B-`, optional `E` section, number of models -/
def Step (s ext : Bool) (w : List Nat) (cs : List Call) : Prop :=
  ∃ w1 w2 w3 w4 w5 c1 c2 c3 c4 c5, w = w1 ++ (w2 ++ (w3 ++ (w4 ++ w5))) ∧ cs = c1 ++ c2 ++ c3 ++ c4 ++ c5 ∧
    Rules s ext false 0 w1 c1 ∧ Syms s true w2 c2 ∧ ComputeSec s kwBp true w3 c3 ∧ ComputeSec s kwBm false w4 c4 ∧ ExtraSec s w5 c5

theorem step_sound (ext : Bool) (a : AS) (cs : List Call) (a5 : AS) (h : step ext a = (cs, .ok a5)) : ∃ w, a.rest = w ++ a5.rest ∧ Step false ext w cs := by
  unfold step at h
  split at h; rename_i c1 r1 h1
  split at h; cases h; rename_i a1
  obtain ⟨w1, c1', e1, l1, rfl⟩ := rulesLoop_sound ext false _ _ _ _ _ _ h1
  split at h; rename_i c2 r2 h2
  split at h; cases h; rename_i a2
  obtain ⟨w2, c2', e2, l2, rfl⟩ := symbolsLoop_sound true _ _ _ _ _ h2
  split at h; rename_i c3 r3 h3
  split at h; cases h; rename_i a3
  obtain ⟨w3, e3, l3⟩ := compute_sound _ _ _ _ _ h3
  split at h; rename_i c4 r4 h4
  split at h; cases h; rename_i a4
  obtain ⟨w4, e4, l4⟩ := compute_sound _ _ _ _ _ h4
  split at h; rename_i c5 r5 h5
  cases h
  obtain ⟨w5, e5, l5⟩ := extra_sound _ _ _ h5
  exact ⟨w1 ++ (w2 ++ (w3 ++ (w4 ++ w5))), by rw [e1, e2, e3, e4, e5]; simp, w1, w2, w3, w4, w5, _, _, _, _, _, rfl, rfl, l1, l2, l3, l4, l5⟩

theorem step_complete (ext : Bool) (w : List Nat) (cs : List Call) (a : AS) (k : List Nat) (hw : Step true ext w cs) (hr : a.rest = w ++ k) (hk : NDS k) :
    ∃ a', step ext a = (cs, .ok a') ∧ a'.rest = k := by
  obtain ⟨w1, w2, w3, w4, w5, c1, c2, c3, c4, c5, rfl, rfl, l1, l2, l3, l4, l5⟩ := hw
  have n5 : NDS (w5 ++ k) := extraSec_nds l5 k
  have n4 : NDS (w4 ++ (w5 ++ k)) := computeSec_nds (fun _ => NDS_cons rfl) l4 _
  have n3 : NDS (w3 ++ (w4 ++ (w5 ++ k))) := computeSec_nds (fun _ => NDS_cons rfl) l3 _
  have n2 : NDS (w2 ++ (w3 ++ (w4 ++ (w5 ++ k)))) := syms_nds l2 _
  obtain ⟨a1, e1, r1⟩ := rulesLoop_complete ext false 0 w1 c1 l1 (a.rest.length + 1) a [] _ (by rw [hr, List.append_assoc, List.length_append]; omega)
    (by rw [hr]; simp only [List.append_assoc]) n2
  obtain ⟨a2, e2, r2⟩ := symbolsLoop_complete true w2 c2 l2 (a1.rest.length + 1) a1 [] _ (by rw [r1, List.length_append]; omega) r1 n3
  obtain ⟨a3, e3, r3⟩ := compute_complete [66, 43] ⟨66, [43], rfl, rfl⟩ true w3 c3 a2 _ l3 r2 n4
  obtain ⟨a4, e4, r4⟩ := compute_complete [66, 45] ⟨66, [45], rfl, rfl⟩ false w4 c4 a3 _ l4 r3 n5
  obtain ⟨a5, e5, r5⟩ := extra_complete w5 c5 a4 k l5 r4 hk
  refine ⟨a5, ?_, r5⟩
  unfold step
  simp only [List.reverse_nil, List.nil_append] at e1 e2
  simp only [e1, e2, e3, e4, e5]

theorem step_pos {s ext : Bool} {w : List Nat} {cs : List Call} (h : Step s ext w cs) : 1 ≤ w.length := by
  obtain ⟨w1, w2, w3, w4, w5, c1, c2, c3, c4, c5, ew, _, l1, _⟩ := h
  subst ew
  have := rules_pos l1
  simp only [List.length_append]; omega

inductive Steps7 (s ext : Bool) : Bool → List Nat → List Call → Prop
  | last {inc : Bool} {w ws : List Nat} {cs : List Call} : Step s ext w cs → Filler ws → Steps7 s ext inc (w ++ ws) ([.beginStep] ++ cs ++ [.endStep])
  | more {w ws rest : List Nat} {cs cs' : List Call} : Step s ext w cs → Filler ws → (s = true → ws ≠ []) → NWS rest → rest.headD 0 ≠ 0 →
      Steps7 s ext true rest cs' → Steps7 s ext true (w ++ (ws ++ rest)) ([.beginStep] ++ cs ++ [.endStep] ++ cs')

attribute [local irreducible] SmodelsIn.step more in
theorem stepsLoop7_succ (ext : Bool) (f : Nat) (inc : Bool) (a : AS) (acc : List Call) : SmodelsIn.stepsLoop ext (f + 1) inc a acc =
    (match SmodelsIn.step ext a with
     | (cs, r) =>
       match r with
       | .error l => { calls := acc ++ [.beginStep] ++ cs, err := some l }
       | .ok a1 =>
         match more a1 with
         | (m, a2) =>
           if m && !inc then { calls := acc ++ [.beginStep] ++ cs ++ [.endStep], err := some a2.line }
           else if m then SmodelsIn.stepsLoop ext f inc a2 (acc ++ [.beginStep] ++ cs ++ [.endStep])
           else { calls := acc ++ [.beginStep] ++ cs ++ [.endStep], err := none }) := rfl

theorem stepsLoop7_sound (ext : Bool) : ∀ (f : Nat) (inc : Bool) (a : AS) (acc calls : List Call), (∀ c ∈ a.rest, c ≠ 0) →
    SmodelsIn.stepsLoop ext f inc a acc = { calls := calls, err := none } → ∃ cs, calls = acc ++ cs ∧ Steps7 false ext inc a.rest cs := by
  intro f
  induction f with
  | zero => intro inc a acc calls _ h; cases h
  | succ f ih =>
    intro inc a acc calls hnul h
    rw [stepsLoop7_succ] at h
    split at h; rename_i cs r hst
    split at h; cases h; rename_i a1
    obtain ⟨w, e1, hd⟩ := step_sound ext a _ a1 hst
    obtain ⟨ws, e2, hws⟩ := skipWs_inv a1
    rw [show more a1 = (a1.skipWs.peek != 0, a1.skipWs) from rfl] at h
    simp only at h
    rw [e1, e2]
    cases hm : a1.skipWs.peek != 0
    · -- the text ends here: a NUL-free rest that starts with NUL is empty
      simp only [hm, Bool.false_and, Bool.false_eq_true, ↓reduceIte] at h
      cases h
      have hnil : a1.skipWs.rest = [] := by
        cases hrr : a1.skipWs.rest with
        | nil => rfl
        | cons c r => exact absurd (by simpa [AS.peek, hrr] using hm) (hnul c (by rw [e1, e2, hrr]; simp))
      rw [hnil, List.append_nil]
      exact ⟨_, by simp, .last hd hws⟩
    · cases inc
      · simp [hm] at h
      · simp only [hm, Bool.not_true, Bool.and_false, Bool.false_eq_true, ↓reduceIte] at h
        obtain ⟨cs2, rfl, hs2⟩ := ih true a1.skipWs _ calls (fun c hc => hnul c (by rw [e1, e2]; simp [hc])) h
        exact ⟨_, by simp, .more hd hws nofun (skipWs_nws a1) (by simpa [AS.peek] using hm) hs2⟩

theorem stepsLoop7_complete (ext : Bool) : ∀ (inc : Bool) (w : List Nat) (cs : List Call), Steps7 true ext inc w cs → ∀ (f : Nat) (a : AS) (acc : List Call),
    w.length < f → a.rest = w → SmodelsIn.stepsLoop ext f inc a acc = { calls := acc ++ cs, err := none } := by
  intro inc w cs hs f
  induction f generalizing inc w cs with
  | zero => intro a acc hf; omega
  | succ f ih =>
    intro a acc hf hr
    rw [stepsLoop7_succ]
    cases hs with
    | @last _ w ws cs hd hws =>
      obtain ⟨a1, e1, r1⟩ := step_complete ext w cs a ws hd hr hws.nds
      have hm := (C03.more_spec (r1.trans (List.append_nil _).symm) hws nofun).1
      rw [e1]
      simp only [hm, List.headD_nil, bne_self_eq_false, Bool.false_and, Bool.false_eq_true, ↓reduceIte, List.append_assoc]
    | @more w ws rest cs cs' hd hws hne hnw hh0 hrest =>
      obtain ⟨a1, e1, r1⟩ := step_complete ext w cs a (ws ++ rest) hd hr (hws.nds_append (hne rfl) rest)
      have ⟨hm, hsk⟩ := C03.more_spec r1 hws hnw
      have hlen := step_pos hd
      rw [e1]
      simp only [hm, bne_iff_ne.mpr hh0, Bool.not_true, Bool.and_false, Bool.false_eq_true, ↓reduceIte]
      rw [ih true rest cs' hrest a1.skipWs _ (by simp only [List.length_append] at hf; omega) hsk]
      simp

/-- the smodels grammar: the text starts with a digit; it is incremental iff it starts with `9` (the `90 0` marker), which needs extensions -/
def Prog7 (s ext : Bool) (t : List Nat) (inc : Bool) (cs : List Call) : Prop :=
  isDigit (t.headD 0) = true ∧ inc = (t.headD 0 == 57) ∧ (inc = true → ext = true) ∧ Steps7 s ext inc t cs

/-- **C07 (completeness)**: every strict smodels text (optionally clasp-extended) — rules of the known types with atoms in 1..2^31-1, counts matched by
    the atoms and weights that follow, bounds and weights within 0..2^31-1, symbol table, both compute sections, optional external section, number
    of models; any layout between the tokens — is accepted, and exactly the denoted rules, outputs, constraints and externals are delivered in order. -/
theorem C07_complete (ext : Bool) (t : List Nat) (inc : Bool) (cs : List Call) (h : Prog7 true ext t inc cs) :
    SmodelsIn.read ext t = { calls := .initProgram inc :: cs, err := none } := by
  obtain ⟨hd, hinc, hext, hs⟩ := h
  have := stepsLoop7_complete ext inc t cs hs ((AS.init t).rest.length + 1) (AS.init t) [.initProgram inc] (Nat.lt_succ_self _) rfl
  unfold SmodelsIn.read
  have hp : (AS.init t).peek = t.headD 0 := rfl
  simp only [hp, hd, Bool.true_and]
  have hc : (!inc || ext) = true := by
    cases inc with
    | false => rfl
    | true => simp [hext rfl]
  simp only [← hinc, hc, ↓reduceIte, this, List.singleton_append]

/-- **C07 (soundness)**: whatever the smodels reader accepts (a text without NUL byte) is a text of the (lenient) smodels grammar, and what it delivers is
    exactly what the text denotes — every number is the written one, inside its field; clasp-extension rule types only with extensions enabled. -/
theorem C07_sound (ext : Bool) (t : List Nat) (calls : List Call) (hnul : ∀ c ∈ t, c ≠ 0) (h : SmodelsIn.read ext t = { calls := calls, err := none }) :
    ∃ inc cs, calls = .initProgram inc :: cs ∧ Prog7 false ext t inc cs := by
  unfold SmodelsIn.read at h
  have hp : (AS.init t).peek = t.headD 0 := rfl
  simp only [hp] at h
  split at h
  · rename_i hc
    simp only [Bool.and_eq_true, Bool.or_eq_true, Bool.not_eq_eq_eq_not, Bool.not_true] at hc
    obtain ⟨cs, ec, hs⟩ := stepsLoop7_sound ext _ _ (AS.init t) _ calls hnul h
    refine ⟨t.headD 0 == 57, cs, by simpa using ec, hc.1, rfl, ?_, hs⟩
    intro hi
    rcases hc.2 with h' | h'
    · rw [hi] at h'; cases h'
    · exact h'
  · simp at h

theorem C07_rejects (ext : Bool) (t : List Nat) (hnul : ∀ c ∈ t, c ≠ 0) (hno : ∀ inc cs, ¬ Prog7 false ext t inc cs) : (SmodelsIn.read ext t).err ≠ none := by
  intro h
  obtain ⟨inc, cs, _, hp⟩ := C07_sound ext t (SmodelsIn.read ext t).calls hnul (by rw [← h])
  exact hno inc cs hp

/-- clasp-extension rule types are no rules of the grammar unless extensions are enabled -/
theorem C07_ext_rules_need_ext (s : Bool) (rt prio : Nat) (hrt : rt = 90 ∨ rt = 91 ∨ rt = 92) (w : List Nat) (v : Option Call × Nat) : ¬ ruleL false rt prio s w v := by
  rcases hrt with h | h | h <;> subst h <;> simp [ruleL, Choice, Disjunctive, Basic, Cardinality, Weight, Optimize, ClaspIncrement, ClaspAssignExt, ClaspReleaseExt, none']

/-! non-vacuity: the empty program `0␤0␤B+␤0␤B-␤0␤1␤` is a strict smodels text; a program with a rule and a symbol is accepted and lenient -/
theorem tok0 (lead : Bool) (m : Nat) (ws : List Nat) (hws : Filler ws) (d : Nat) (hd : isDigit d = true) (n : Nat) (hn : (n : Int) = C03.denoted .none [d])
    (hm : n ≤ m) (hl : lead = true → ws ≠ []) : numN true lead m (ws ++ [d]) n :=
  ⟨ws, .none, [d], rfl, hws, .single hd, hn, by omega, by omega, fun _ h => .inl (hl h)⟩

def exEmpty : List Nat := [48, 10, 48, 10, 66, 43, 10, 48, 10, 66, 45, 10, 48, 10, 49, 10]

example : Prog7 true false exEmpty false [.beginStep, .endStep] := by
  have hf10 : Filler [10] := .of_all rfl
  have z (lead : Bool) (m : Nat) (ws : List Nat) (hws : Filler ws) (hl : lead = true → ws ≠ []) : numN true lead m (ws ++ [48]) 0 :=
    tok0 lead m ws hws 48 rfl 0 rfl (Nat.zero_le m) hl
  have h1 : Rules true false false 0 ([] ++ [48]) [] := .done (z false _ [] .nil nofun)
  have h2 : Syms true true ([10] ++ [48]) [] := .done (z true _ [10] hf10 fun _ => List.cons_ne_nil _ _)
  have h3 (tok : List Nat) (val : Bool) : ComputeSec true tok val ([10] ++ (tok ++ ([10] ++ ([] ++ [48])))) [] :=
    ⟨[10], [10], [] ++ [48], rfl, hf10, .inl rfl, .done (z false _ [] .nil nofun)⟩
  have h5 : ExtraSec true ([10] ++ [49]) [] := .inr ⟨1, tok0 true _ [10] hf10 49 rfl 1 rfl (by decide) fun _ => List.cons_ne_nil _ _, rfl⟩
  have hstep : Step true false _ _ := ⟨_, _, _, _, _, _, _, _, _, _, rfl, rfl, h1, h2, h3 kwBp true, h3 kwBm false, h5⟩
  exact ⟨rfl, rfl, Bool.noConfusion, .last (ws := [10]) hstep hf10⟩

def exFact : List Nat := [49, 32, 49, 32, 48, 32, 48, 10, 48, 10, 49, 32, 97, 10, 48, 10, 66, 43, 10, 48, 10, 66, 45, 10, 48, 10, 49, 10]
example : SmodelsIn.read false exFact = { calls := [.initProgram false, .beginStep, .rule 0 [1] [], .output [97] [1], .endStep], err := none } := by decide +kernel
example : ∃ inc cs, Prog7 false false exFact inc cs := by
  obtain ⟨inc, cs, _, h⟩ := C07_sound false exFact _ (by decide) (by decide +kernel : SmodelsIn.read false exFact = { calls := [.initProgram false, .beginStep, .rule 0 [1] [], .output [97] [1], .endStep], err := none })
  exact ⟨inc, cs, h⟩

end PotasscoVerif.C07
