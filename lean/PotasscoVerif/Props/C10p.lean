/-
  C10 (continued) — all statement kinds, comment lines, and whole programs of them.
-/
import PotasscoVerif.Props.C10e
namespace PotasscoVerif.C10
open PotasscoVerif PotasscoVerif.CharStream PotasscoVerif.TextIn PotasscoVerif.Decimal PotasscoVerif.AspifOut
open PotasscoVerif.BufferedStream (isDigit isWs I64MAX)

inductive StmtX where
  | base (s : StmtS)
  | minimize (m : MinimizeS)
  | wrule (r : WRuleS)
  | heuristic (h : HeuS)
  | output (o : OutS)
  | comment (c : CommentS)

def StmtX.text : StmtX → List Nat
  | .base s => s.text
  | .minimize m => m.text
  | .wrule r => r.text
  | .heuristic h => h.text
  | .output o => o.text
  | .comment c => c.text
def StmtX.calls : StmtX → List Call
  | .base s => [s.call]
  | .minimize m => [.minimize (prioVal m.prio) m.agg.vals]
  | .wrule r => [r.call]
  | .heuristic h => [h.call]
  | .output o => [o.call]
  | .comment _ => []
def StmtX.ok : StmtX → Prop
  | .base s => s.ok
  | .minimize m => m.ok
  | .wrule r => r.ok
  | .heuristic h => h.ok
  | .output o => o.ok
  | .comment c => c.ok

def StmtX.isComment : StmtX → Bool
  | .comment _ => true
  | _ => false

/-- what may follow a statement: the end, or the start of a rule, `#` or `%` -/
def FollowsC (k : List Nat) : Prop := k = [] ∨ ∃ c t, k = c :: t ∧ ((RuleStart c ∨ c = 35) ∨ c = 37)

theorem FollowsC.hash (t : List Nat) : FollowsC (35 :: t) := Or.inr ⟨35, t, rfl, Or.inl (Or.inr rfl)⟩

theorem FollowsC.nws {k : List Nat} (h : FollowsC k) : NWS k := by
  rcases h with rfl | ⟨c, t, rfl, hc | rfl⟩
  · exact nws_nil
  · exact nws_cons (start_facts hc).1 t
  · exact nws_cons (by decide) t

theorem FollowsC.no91 {k : List Nat} (h : FollowsC k) : ([91] : List Nat).isPrefixOf k = false := by
  rcases h with rfl | ⟨c, t, rfl, hc | rfl⟩
  · rfl
  · exact not_prefix_cons (start_facts hc).2.2.2.2.symm _ _
  · rfl

/-- the test by which the text reader accepts a stream -/
theorem FollowsC.accepted {k : List Nat} (h : FollowsC k) :
    (k.headD 0 == 0 || isLower (k.headD 0) || [46, 35, 37, 123, 58].contains (k.headD 0)) = true := by
  rcases h with rfl | ⟨c, t, rfl, ((h | h | h) | h) | h⟩
  · rfl
  · rw [List.headD_cons, h, Bool.or_true, Bool.true_or]
  all_goals subst h; rfl

theorem wrule_head (r : WRuleS) (hok : r.ok) (k : List Nat) : ∃ c t, r.text ++ k = c :: t ∧ RuleStart c := by
  obtain ⟨head, wsArrow, bound, wsBound, agg, wsDot⟩ := r
  cases head with
  | choice w1 items w2 => exact ⟨123, _, rfl, Or.inr (Or.inl rfl)⟩
  | disj items =>
    rcases atomsText_head items (fun p hp => (hok.1 p hp).1) [] with rfl | ⟨c, t, e, hc⟩
    · exact ⟨58, _, rfl, Or.inr (Or.inr rfl)⟩
    · rw [List.append_nil] at e
      rw [WRuleS.text, HeadS.text, e]; exact ⟨c, _, rfl, Or.inl hc⟩

theorem stmtX_head (st : StmtX) (hok : st.ok) (k : List Nat) :
    ∃ c t, st.text ++ k = c :: t ∧ (if st.isComment then c = 37 else RuleStart c ∨ c = 35) := by
  cases st with
  | base s =>
    cases s with
    | rule r => obtain ⟨c, t, e, hc⟩ := rule_head r hok k; exact ⟨c, t, e, Or.inl hc⟩
    | _ => exact ⟨35, _, rfl, Or.inr rfl⟩
  | comment c => exact ⟨37, _, rfl, rfl⟩
  | wrule r => obtain ⟨c, t, e, hc⟩ := wrule_head r hok k; exact ⟨c, t, e, Or.inl hc⟩
  | _ => exact ⟨35, _, rfl, Or.inr rfl⟩

theorem stmtLoopX_step (inc : Bool) (f : Nat) (a : AS) (acc : List Call) (st : StmtX) (k : List Nat) (hok : st.ok) (hk : NWS k)
    (h91 : ([91] : List Nat).isPrefixOf k = false) (ws : List Nat) (hws : Filler ws) (hr : a.rest = ws ++ (st.text ++ k)) :
    ∃ a' ws', stmtLoop inc (f + 1) a acc = stmtLoop inc f a' (acc ++ st.calls) ∧ Filler ws' ∧ a'.rest = ws' ++ k := by
  -- every kind but the comment line leaves no filler behind
  suffices h : st.isComment = false → ∃ a', stmtLoop inc (f + 1) a acc = stmtLoop inc f a' (acc ++ st.calls) ∧ a'.rest = k by
    cases st with
    | comment c =>
      obtain ⟨a', h, hr'⟩ := stmtLoop_comment inc f a acc c k hok hk ws hws hr
      exact ⟨a', c.wsAfter, by rw [h, StmtX.calls, List.append_nil], hok.2.1, hr'⟩
    | _ => obtain ⟨a', h, hr'⟩ := h rfl; exact ⟨a', [], h, Filler.nil, hr'⟩
  intro hnc
  cases st with
  | comment c => cases hnc
  | base s => exact stmtLoop_step inc f a acc s k hok hk h91 ws hws hr
  | wrule r => exact stmtLoop_rule inc f a acc ws r.text k r.call hws hr (wrule_head r hok k) (fun a1 r1 => C10_wrule a1 r k hok hk r1)
  | output o =>
    exact stmtLoop_kw inc f a acc ws (i := 2) rfl rfl o.ws0 _ k _ hws hok.1 (by rw [List.append_assoc]; exact term_nws o.term hok.2.1 _) hr
      (fun a1 r1 => dOutput_spec a1 o k hok hk (by rw [r1]; simp only [List.append_assoc, List.cons_append]))
  | minimize m =>
    exact stmtLoop_kw inc f a acc ws (i := 0) rfl rfl m.ws0 _ k _ hws hok.1 (nws_cons (by decide) _) hr (fun a1 r1 => dMinimize_spec a1 m k hok hk r1)
  | heuristic h =>
    exact stmtLoop_kw inc f a acc ws (i := 5) rfl rfl h.ws0 _ k _ hws hok.1
      (by unfold HeuS.tail; rw [List.append_assoc]; exact lower_nws (atomItem_head h.atom hok.2.1 _)) hr (fun a1 r1 => dHeuristic_spec a1 h k hok hk r1)

def progTextX : List StmtX → List Nat
  | [] => []
  | st :: r => st.text ++ progTextX r

theorem progTextX_follows_app (l : List StmtX) (hok : ∀ st ∈ l, st.ok) (K : List Nat) (hK : FollowsC K) : FollowsC (progTextX l ++ K) := by
  cases l with
  | nil => exact hK
  | cons st r =>
    obtain ⟨c, t, e, hc⟩ := stmtX_head st (hok st (List.mem_cons_self ..)) (progTextX r ++ K)
    rw [progTextX, List.append_assoc, e]
    cases hi : st.isComment <;> rw [hi] at hc
    · exact Or.inr ⟨c, t, rfl, Or.inl hc⟩
    · exact Or.inr ⟨c, t, rfl, Or.inr hc⟩

theorem progTextX_follows (l : List StmtX) (hok : ∀ st ∈ l, st.ok) : FollowsC (progTextX l) := by
  have := progTextX_follows_app l hok [] (Or.inl rfl)
  rwa [List.append_nil] at this

theorem progTextX_length (l : List StmtX) (hok : ∀ st ∈ l, st.ok) : l.length ≤ (progTextX l).length := by
  induction l with
  | nil => exact Nat.le_refl _
  | cons st r ih =>
    obtain ⟨hst, hok'⟩ := List.forall_mem_cons.1 hok
    obtain ⟨c, t, e, _⟩ := stmtX_head st hst []
    have h1 := congrArg List.length e
    have h2 := ih hok'
    simp only [List.append_nil, progTextX, List.length_append, List.length_cons] at h1 ⊢; omega

theorem stmtLoop_end (inc : Bool) (f : Nat) (a : AS) (acc : List Call) (ws : List Nat) (hws : Filler ws) (hr : a.rest = ws) :
    stmtLoop inc (f + 1) a acc = (acc, .ok a.skipWs) ∧ a.skipWs.rest = [] := by
  have hs : a.skipWs.rest = [] := skipWs_spec a ws [] (by rw [hr, List.append_nil]) hws nws_nil
  have hp : (peekWs a).1 = 0 := by show a.skipWs.peek = 0; unfold AS.peek; rw [hs]; rfl
  exact ⟨by simp only [stmtLoop, hp, beq_self_eq_true, ↓reduceIte]; rfl, hs⟩

theorem stmtLoop_stmts (inc : Bool) (stmts : List StmtX) (hok : ∀ st ∈ stmts, st.ok) (K : List Nat) (hK : FollowsC K) (f : Nat) (a : AS)
    (acc : List Call) (ws : List Nat) (hws : Filler ws) (hr : a.rest = ws ++ (progTextX stmts ++ K)) :
    ∃ a' ws', stmtLoop inc (stmts.length + f) a acc = stmtLoop inc f a' (acc ++ stmts.flatMap StmtX.calls) ∧ Filler ws' ∧ a'.rest = ws' ++ K := by
  induction stmts generalizing a acc ws with
  | nil => exact ⟨a, ws, by simp, hws, hr⟩
  | cons st r ih =>
    obtain ⟨hst, hok'⟩ := List.forall_mem_cons.1 hok
    have hfr := progTextX_follows_app r hok' K hK
    simp only [progTextX, List.append_assoc] at hr
    obtain ⟨a1, ws1, h1, hw1, hr1⟩ := stmtLoopX_step inc (r.length + f) a acc st _ hst hfr.nws hfr.no91 ws hws hr
    obtain ⟨a2, ws2, h2, hw2, hr2⟩ := ih hok' a1 (acc ++ st.calls) ws1 hw1 hr1
    exact ⟨a2, ws2, by rw [List.length_cons, Nat.add_right_comm, h1, h2, List.flatMap_cons, List.append_assoc], hw2, hr2⟩

theorem stmtLoop_progX (inc : Bool) (stmts : List StmtX) (hok : ∀ st ∈ stmts, st.ok) (f : Nat) (hf : stmts.length < f) (a : AS) (acc : List Call)
    (ws : List Nat) (hws : Filler ws) (hr : a.rest = ws ++ progTextX stmts) :
    ∃ a', stmtLoop inc f a acc = (acc ++ stmts.flatMap StmtX.calls, .ok a') ∧ a'.rest = [] := by
  obtain ⟨g, rfl⟩ : ∃ g, f = stmts.length + (g + 1) := ⟨f - stmts.length - 1, by omega⟩
  obtain ⟨a1, ws1, h1, hw1, hr1⟩ := stmtLoop_stmts inc stmts hok [] (Or.inl rfl) (g + 1) a acc ws hws (by rw [hr, List.append_nil])
  obtain ⟨h2, hr2⟩ := stmtLoop_end inc g a1 (acc ++ stmts.flatMap StmtX.calls) ws1 hw1 (by rw [hr1, List.append_nil])
  exact ⟨_, h1.trans h2, hr2⟩

theorem stepsLoop_last (inc : Bool) (f : Nat) (a : AS) (acc : List Call) (stmts : List StmtX) (hok : ∀ st ∈ stmts, st.ok)
    (ws : List Nat) (hws : Filler ws) (hr : a.rest = ws ++ progTextX stmts) :
    stepsLoop (f + 1) inc a acc = { calls := acc ++ [.beginStep] ++ stmts.flatMap StmtX.calls ++ [.endStep], err := none } := by
  obtain ⟨a1, h1, hr1⟩ := stmtLoop_progX inc stmts hok (a.rest.length + 1)
    (by rw [hr, List.length_append]; have := progTextX_length stmts hok; omega) a [] ws hws hr
  have hmore : AspifIn.more a1 = (false, a1.skipWs) := by
    unfold AspifIn.more; simp only [AS.peek, skipWs_nil a1 hr1]; rfl
  simp only [stepsLoop, h1, hmore, Bool.false_eq_true, Bool.false_and, ↓reduceIte, List.nil_append]

/-- leading comment lines are consumed when the reader attaches to the stream -/
def dropComments : List StmtX → List StmtX
  | .comment _ :: r => dropComments r
  | l => l

theorem dropComments_calls (l : List StmtX) : (dropComments l).flatMap StmtX.calls = l.flatMap StmtX.calls := by
  induction l with
  | nil => rfl
  | cons st r ih => cases st <;> first | rfl | exact ih

theorem dropComments_ok (l : List StmtX) (hok : ∀ st ∈ l, st.ok) : ∀ st ∈ dropComments l, st.ok := by
  induction l with
  | nil => exact hok
  | cons st r ih => cases st <;> first | exact hok | exact ih (fun s hs => hok s (List.mem_cons_of_mem _ hs))

theorem dropComments_length (l : List StmtX) : (dropComments l).length ≤ l.length := by
  induction l with
  | nil => exact Nat.le_refl _
  | cons st r ih => cases st <;> first | exact Nat.le_refl _ | exact Nat.le_succ_of_le ih

theorem skipComments_stop (f : Nat) (a : AS) (h : (a.peek == 37) = false) : skipComments f a = a := by
  cases f <;> simp only [skipComments, h, Bool.false_eq_true, ↓reduceIte]

theorem skipComments_comment (f : Nat) (a : AS) (c : CommentS) (k : List Nat) (hok : c.ok) (hk : NWS k) (hr : a.rest = c.text ++ k) :
    ∃ a', skipComments (f + 1) a = skipComments f a' ∧ a'.rest = k := by
  have hp : a.peek = 37 := peek_cons hr
  exact ⟨_, by simp only [skipComments, hp, BEq.rfl, ↓reduceIte],
    skipWs_spec _ c.wsAfter _ (skipLine_comment a c k hok hk hr) hok.2.1 hk⟩

theorem skipComments_spec (stmts : List StmtX) (hok : ∀ st ∈ stmts, st.ok) (f : Nat) (hf : stmts.length < f) (a : AS) (hr : a.rest = progTextX stmts) :
    (skipComments f a).rest = progTextX (dropComments stmts) := by
  induction stmts generalizing f a with
  | nil => rw [skipComments_stop f a (by unfold AS.peek; rw [hr]; rfl)]; exact hr
  | cons st r ih =>
    cases f with
    | zero => exact absurd hf (Nat.not_lt_zero _)
    | succ f =>
      obtain ⟨hst, hok'⟩ := List.forall_mem_cons.1 hok
      cases hc : st.isComment with
      | true =>
        cases st with
        | comment c =>
          obtain ⟨a1, h1, hr1⟩ := skipComments_comment f a c (progTextX r) hst (progTextX_follows r hok').nws hr
          rw [h1]
          exact ih hok' f (Nat.lt_of_succ_lt_succ hf) a1 hr1
        | _ => cases hc
      | false =>
        have hd : dropComments (st :: r) = st :: r := by cases st <;> first | rfl | cases hc
        obtain ⟨c, t, e, hcc⟩ := stmtX_head st hst (progTextX r)
        rw [hc] at hcc
        rw [hd, skipComments_stop _ a (by rw [peek_cons (hr.trans e)]; exact beq_eq_false_iff_ne.2 (start_facts hcc).2.2.2.1), hr]

theorem progTextX_not_incremental (l : List StmtX) (hok : ∀ st ∈ l, st.ok) : kwIncremental.isPrefixOf (progTextX l) = false := by
  cases l with
  | nil => rfl
  | cons st r =>
    have hst := hok st (List.mem_cons_self ..)
    cases st with
    | base s =>
      cases s with
      | rule r0 => obtain ⟨c, t, e, hc⟩ := rule_head r0 hst (progTextX r); rw [progTextX, StmtX.text, StmtS.text, e]; exact not_prefix_cons hc.ne_hash.symm _ t
      | _ => rfl
    | wrule r0 => obtain ⟨c, t, e, hc⟩ := wrule_head r0 hst (progTextX r); rw [progTextX, StmtX.text, e]; exact not_prefix_cons hc.ne_hash.symm _ t
    | _ => rfl

theorem attach_spec (a : AS) (h : FollowsC a.skipWs.rest) :
    attach a = some (match tok kwIncremental false (skipComments (a.skipWs.rest.length + 1) a.skipWs) with
      | .error l => .error l
      | .ok (false, a2) => .ok (false, a2)
      | .ok (true, a2) =>
        match tok [46] true a2 with
        | .error l => .error l
        | .ok (_, a3) => .ok (true, a3)) := by
  unfold attach peekWs
  exact if_pos h.accepted

/-- **C10 (programs, every statement kind)**: a program (one step) of facts, constraints, disjunctive and choice rules with normal
    OR weight bodies, `#minimize`, `#assume`, `#project`, `#external`, `#edge`, `#heuristic`, `#output` (names with nested argument
    lists and quoted strings, or a quoted string; with or without condition) and `%` comment lines (ended by LF, CR or CRLF)
    anywhere between the statements — also before the first one —, written with ANY filler at every optional position (also before
    the first statement) and ANY spelling of every atom, is read as exactly the corresponding calls in order — comment lines deliver
    nothing, aggregate elements of weight 0 are omitted — without an error. -/
theorem C10_read_programX (stmts : List StmtX) (hok : ∀ st ∈ stmts, st.ok) (ws0 : List Nat) (hws0 : Filler ws0) :
    TextIn.read (ws0 ++ progTextX stmts) = { calls := [.initProgram false, .beginStep] ++ stmts.flatMap StmtX.calls ++ [.endStep], err := none } := by
  have hfol := progTextX_follows stmts hok
  have hs : (AS.init (ws0 ++ progTextX stmts)).skipWs.rest = progTextX stmts := skipWs_spec _ ws0 _ rfl hws0 hfol.nws
  -- leading comment lines are skipped; behind them there is no `#incremental`
  have hok' := dropComments_ok stmts hok
  have hsc := skipComments_spec stmts hok ((AS.init (ws0 ++ progTextX stmts)).skipWs.rest.length + 1)
    (by rw [hs]; have := progTextX_length stmts hok; omega) _ hs
  obtain ⟨a2, h2, hr2⟩ := tok_absent _ kwIncremental hsc (progTextX_not_incremental _ hok')
  rw [TextIn.read, attach_spec _ (by rw [hs]; exact hfol)]
  simp only [h2]
  rw [stepsLoop_last false _ a2 _ _ hok' [] Filler.nil hr2, dropComments_calls]
  rfl

theorem progTextX_base (l : List StmtS) : progTextX (l.map .base) = progText l := by
  induction l with
  | nil => rfl
  | cons st r ih => rw [List.map_cons, progTextX, ih]; rfl

theorem calls_base (l : List StmtS) : (l.map .base).flatMap StmtX.calls = l.map StmtS.call := by
  induction l with
  | nil => rfl
  | cons st r ih => rw [List.map_cons, List.flatMap_cons, ih]; rfl

/-- **C10 (programs)**: a program (one step) of facts, integrity constraints, disjunctive and choice rules with normal bodies,
    `#assume`, `#project`, `#external` (with or without a value) and `#edge` statements (with or without a condition), written
    with ANY filler at every optional position, ANY spelling of every atom and ANY separator of the admissible ones in atom
    lists, is read as exactly the corresponding calls, in order, between `initProgram(false)`, `beginStep` and `endStep`,
    without an error. -/
theorem C10_read_program (stmts : List StmtS) (hok : ∀ st ∈ stmts, st.ok) :
    TextIn.read (progText stmts) = { calls := [.initProgram false, .beginStep] ++ stmts.map StmtS.call ++ [.endStep], err := none } := by
  have h := C10_read_programX (stmts.map .base)
    (by intro st hst; obtain ⟨s, hs, rfl⟩ := List.mem_map.1 hst; exact hok s hs) [] Filler.nil
  rwa [progTextX_base, List.nil_append, calls_base] at h

end PotasscoVerif.C10
