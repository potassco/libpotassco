/-
  C04 for the ground-text reader (Model/TextIn.lean).
-/
import PotasscoVerif.Lemmas.Contract
import PotasscoVerif.Model.TextIn
namespace PotasscoVerif.C04
open PotasscoVerif PotasscoVerif.CharStream
open PotasscoVerif.AspifIn (P Result)
open PotasscoVerif.TextIn

theorem tint_post : Post TextIn.int i32 := by
  intro a v a' h
  unfold TextIn.int at h
  split at h
  · split at h
    · rename_i hr; cases h; exact hr
    · cases h
  · cases h

theorem ident_post : Post ident atomOk := by
  intro a n a' h
  obtain ⟨hl, h⟩ := guard_ok h
  obtain ⟨_, h⟩ := guard_ok h
  obtain ⟨_, h⟩ | ⟨_, h⟩ := ite_cases h
  · split at h
    · rename_i i a3 hi
      obtain ⟨_, h⟩ | ⟨_, h⟩ := ite_cases h
      · cases h
        have := tint_post _ _ _ hi
        unfold i32 at this; unfold atomOk; omega
      · cases h
    · cases h
  · cases h
    simp only [isLower, Bool.not_eq_true', Bool.not_eq_false, Bool.and_eq_true, decide_eq_true_eq] at hl
    unfold atomOk; omega

theorem tlit_post : Post TextIn.lit litOk := by
  intro a v a' h
  unfold TextIn.lit at h
  split at h
  · cases h
  · split at h
    · cases h
    · rename_i x a2 hx
      cases h
      have := ident_post _ _ _ hx
      split
      · exact this.neg
      · exact this.pos

theorem atomsLoop_ok (seps : List Nat) : ∀ (f : Nat) (acc : List Nat), (∀ x ∈ acc, atomOk x) →
    ∀ a l a', atomsLoop seps f a acc = .ok (l, a') → ∀ x ∈ l, atomOk x := by
  intro f
  induction f with
  | zero => intro acc _ a l a' h; cases h
  | succ f ih =>
    intro acc hacc a l a' h
    unfold atomsLoop at h
    split at h
    · cases h
    · rename_i x a1 hx
      obtain ⟨hpos, h⟩ := guard_ok h
      have hlx : litOk x := tlit_post _ _ _ hx
      have hacc' := forall_mem_snoc hacc (show atomOk x.toNat by unfold litOk at hlx; unfold atomOk; omega)
      obtain ⟨_, h⟩ | ⟨_, h⟩ := ite_cases h
      · obtain ⟨_, h⟩ | ⟨_, h⟩ := ite_cases h
        · exact ih _ hacc' _ _ _ h
        · cases h; exact hacc'
      · cases h; exact hacc'

theorem tatoms_post (seps : List Nat) : Post (TextIn.atoms seps) (fun l => ∀ x ∈ l, atomOk x) :=
  .iteS (fun _ _ _ h => atomsLoop_ok seps _ [] (List.forall_mem_nil _) _ _ _ h) (.ok (List.forall_mem_nil _))

theorem litsLoop_ok : ∀ (f : Nat) (acc : List Int), (∀ x ∈ acc, litOk x) →
    ∀ a l a', litsLoop f a acc = .ok (l, a') → ∀ x ∈ l, litOk x := by
  intro f
  induction f with
  | zero => intro acc _ a l a' h; cases h
  | succ f ih =>
    intro acc hacc a l a' h
    unfold litsLoop at h
    split at h
    · cases h
    · rename_i x a1 hx
      have hacc' := forall_mem_snoc hacc (tlit_post _ _ _ hx)
      split at h
      · cases h
      · exact ih _ hacc' _ _ _ h
      · cases h; exact hacc'

theorem tlits_post : Post TextIn.lits (fun l => ∀ x ∈ l, litOk x) :=
  .iteS (fun _ _ _ h => litsLoop_ok _ [] (List.forall_mem_nil _) _ _ _ h) (.ok (List.forall_mem_nil _))

theorem condition_post : Post condition (fun l => ∀ x ∈ l, litOk x) := by
  intro a l a' h
  unfold condition at h
  split at h
  · cases h
  · exact tlits_post _ _ _ h
  · cases h; exact List.forall_mem_nil _

theorem aggLoop_ok : ∀ (f : Nat) (acc : List (Int × Int)), (∀ x ∈ acc, litOk x.1 ∧ i32 x.2) →
    ∀ a l a', aggLoop f a acc = .ok (l, a') → ∀ x ∈ l, litOk x.1 ∧ i32 x.2 := by
  intro f
  induction f with
  | zero => intro acc _ a l a' h; cases h
  | succ f ih =>
    intro acc hacc a l a' h
    unfold aggLoop at h
    split at h
    · cases h
    · rename_i x a1 hx
      split at h
      · cases h
      · split at h
        · cases h
        · rename_i w a3 hw
          have hwi : i32 w := by
            split at hw
            · exact tint_post _ _ _ hw
            · cases hw; exact ⟨by decide, by decide⟩
          have hacc' := forall_mem_snoc hacc (x := (x, w)) ⟨tlit_post _ _ _ hx, hwi⟩
          split at h
          · cases h
          · exact ih _ hacc' _ _ _ h
          · split at h
            · cases h
            · cases h; exact hacc'

theorem agg_post : Post agg (fun l => ∀ x ∈ l, litOk x.1 ∧ i32 x.2) := by
  intro a l a' h
  unfold agg at h
  split at h
  · cases h
  · split at h
    · cases h
    · cases h; exact List.forall_mem_nil _
    · split at h
      · cases h
      · rename_i ws a3 hws
        cases h
        exact fun x hx => aggLoop_ok _ [] (List.forall_mem_nil _) _ _ _ hws x (List.mem_filter.mp hx).1

theorem ruleHead_post (c : Nat) : Post (ruleHead c) (fun h => h.1 ≤ 1 ∧ ∀ y ∈ h.2, atomOk y) :=
  .ite _ (fun _ => .skip fun _ => .bind (tatoms_post _) fun _ hl => .skip fun _ => .ok ⟨Nat.le_refl 1, hl⟩)
    fun _ => .bind (tatoms_post _) fun _ hl => .ok ⟨Nat.zero_le 1, hl⟩

theorem ruleBody_post (ht : Nat) (hd : List Nat) (hh : ht ≤ 1 ∧ ∀ y ∈ hd, atomOk y) : Post (ruleBody ht hd) DirOk :=
  .skip fun _ =>
  .ite _ (fun _ => .iteS
      (.bind (tlits_post.comap _) fun _ hb => .skip fun _ => .ok ⟨⟨hh.1, hh.2, hb⟩, rfl⟩)
      (.bind (tint_post.comap _) fun _ hbnd => .bind agg_post fun ws hws => .ite _ (fun _ => .error) fun hneg => .skip fun _ =>
        .ok ⟨⟨hh.1, hh.2, hbnd, fun p hp => ⟨(hws p hp).1, by
          simp only [List.any_eq_true, decide_eq_true_eq, not_exists, not_and, Int.not_lt] at hneg
          exact hneg p hp, (hws p hp).2⟩⟩, rfl⟩))
    fun _ => .skip fun _ => .ok ⟨⟨hh.1, hh.2, List.forall_mem_nil _⟩, rfl⟩

theorem trule_post (c : Nat) : Post (TextIn.rule c) DirOk := by
  intro a x a' h
  unfold TextIn.rule at h
  split at h
  · cases h
  · rename_i hd a1 hh
    exact ruleBody_post _ _ (ruleHead_post _ _ _ _ hh) _ _ _ h

def StmtOk : Stmt → Prop
  | .call c => DirOk c
  | _ => True

theorem alt_post (kw : List Nat) {p els : P Stmt} (hp : Post p StmtOk) (he : Post els StmtOk) : Post (alt kw p els) StmtOk := by
  intro a r a' h
  unfold alt at h
  split at h
  · cases h
  · exact hp _ _ _ h
  · exact he _ _ _ h

theorem dMinimize_post : Post dMinimize StmtOk :=
  .bind agg_post fun _ hws => .skip fun _ => .skip fun _ => .skip fun _ => .ok ⟨hws, rfl⟩

theorem dProject_post : Post dProject StmtOk :=
  .skip fun _ =>
  .bind (.ite _ (fun _ => .bind (tatoms_post _) fun _ hl => .skip fun _ => .ok hl) fun _ => .ok (List.forall_mem_nil _)) fun _ hl =>
  .skip fun _ => .ok ⟨hl, rfl⟩

theorem dOutput_post : Post dOutput StmtOk :=
  .skip fun _ => .bind condition_post fun _ hc => .skip fun _ => .ok ⟨hc, rfl⟩

theorem extValue_post : Post extValue (· ≤ 3) :=
  .skip fun _ => .ite _ (fun _ => .ok (by decide)) fun _ =>
  .skip fun _ => .ite _ (fun _ => .ok (by decide)) fun _ =>
  .skip fun _ => .ite _ (fun _ => .ok (by decide)) fun _ =>
  .skip fun _ => .ok (by decide)

theorem dExternal_post : Post dExternal StmtOk :=
  .bind ident_post fun _ hx => .skip fun _ => .skip fun _ =>
  .ite _ (fun _ => .bind extValue_post fun _ hv => .skip fun _ => .ok ⟨⟨hx, hv⟩, rfl⟩) fun _ => .ok ⟨⟨hx, by decide⟩, rfl⟩

theorem dAssume_post : Post dAssume StmtOk :=
  .skip fun _ =>
  .bind (.ite _ (fun _ => .bind tlits_post fun _ hl => .skip fun _ => .ok hl) fun _ => .ok (List.forall_mem_nil _)) fun _ hl =>
  .skip fun _ => .ok ⟨hl, rfl⟩

theorem heuMod_lt : ∀ (ws : List (List Nat)) (x : Nat) (a : AS) (t : Nat) (a' : AS), heuMod ws x a = some (t, a') → t < x + ws.length := by
  intro ws
  induction ws with
  | nil => intro x a t a' h; cases h
  | cons w ws ih =>
    intro x a t a' h
    obtain ⟨_, h⟩ | ⟨_, h⟩ := ite_cases h
    · cases h; exact Nat.lt_add_of_pos_right (Nat.succ_pos _)
    · exact Nat.lt_of_lt_of_eq (ih _ _ _ _ h) (Nat.succ_add_eq_add_succ ..)

theorem dHeuristic_post : Post dHeuristic StmtOk :=
  .bind ident_post fun _ hx => .bind condition_post fun _ hc => .skip fun _ => .skip fun _ => .bind tint_post fun _ hv =>
  .skip fun _ => .skip fun _ => .skip fun _ => by
    intro a r a' h
    dsimp only at h
    split at h
    · cases h
    · rename_i hmod
      obtain ⟨_, _, e⟩ := (bind_ok _ _ _).mp h
      cases e
      exact ⟨⟨hx, Nat.le_of_lt_succ (heuMod_lt _ _ _ _ _ hmod), hv, hc⟩, rfl⟩

theorem dEdge_post : Post dEdge StmtOk :=
  .skip fun _ => .skip fun _ => .skip fun _ => .skip fun _ => .skip fun _ => .bind condition_post fun _ hc => .skip fun _ => .ok ⟨hc, rfl⟩

theorem dStep_post (inc : Bool) : Post (dStep inc) StmtOk :=
  .ite _ (fun _ => .error) fun _ => .skip fun _ => .ok trivial

theorem dIncremental_post : Post dIncremental StmtOk := .skip fun _ => .ok trivial

theorem tdirective_post (inc : Bool) : Post (TextIn.directive inc) StmtOk :=
  alt_post _ dMinimize_post <| alt_post _ dProject_post <| alt_post _ dOutput_post <| alt_post _ dExternal_post <| alt_post _ dAssume_post <|
  alt_post _ dHeuristic_post <| alt_post _ dEdge_post <| alt_post _ (dStep_post inc) <| alt_post _ dIncremental_post Post.error

attribute [local irreducible] TextIn.directive TextIn.rule tok peekWs AspifIn.skipLine in
theorem stmtLoop_succ (inc : Bool) (f : Nat) (a : AS) (acc : List Call) : stmtLoop inc (f + 1) a acc =
    (if (peekWs a).1 == 0 then (acc, .ok (peekWs a).2)
     else if (peekWs a).1 == 46 then
       match tok [46] true (peekWs a).2 with
       | .error l => (acc, .error l)
       | .ok (_, a1) => stmtLoop inc f a1 acc
     else if (peekWs a).1 == 35 then
       match TextIn.directive inc (peekWs a).2 with
       | .error l => (acc, .error l)
       | .ok (.call c, a1) => stmtLoop inc f a1 (acc ++ [c])
       | .ok (.nothing, a1) => stmtLoop inc f a1 acc
       | .ok (.step, a1) => (acc, .ok a1)
     else if (peekWs a).1 == 37 then stmtLoop inc f (AspifIn.skipLine (peekWs a).2) acc
     else
       match TextIn.rule (peekWs a).1 (peekWs a).2 with
       | .error l => (acc, .error l)
       | .ok (c, a1) => stmtLoop inc f a1 (acc ++ [c])) := rfl

theorem stmtLoop_ok (inc : Bool) : ∀ (f : Nat) (a : AS) (acc : List Call), (∀ c ∈ acc, DirOk c) → StepOk (stmtLoop inc f a acc) := by
  intro f
  induction f with
  | zero => intro a acc h; exact h
  | succ f ih =>
    intro a acc h
    rw [stmtLoop_succ]
    refine ite_ind _ (fun _ => h) fun _ => ite_ind _ (fun _ => ?_) fun _ => ite_ind _ (fun _ => ?_) fun _ => ite_ind _ (fun _ => ih _ _ h) fun _ => ?_
    · split
      · exact h
      · exact ih _ _ h
    · split
      · exact h
      · rename_i hd
        exact ih _ _ (forall_mem_snoc h (tdirective_post _ _ _ _ hd))
      · exact ih _ _ h
      · exact h
    · split
      · exact h
      · rename_i hr
        exact ih _ _ (forall_mem_snoc h (trule_post _ _ _ _ hr))

attribute [local irreducible] stmtLoop in
theorem tstepsLoop_good (f : Nat) (inc : Bool) (a : AS) (acc : List Call) (h : Between acc) : Good (TextIn.stepsLoop f inc a acc).calls :=
  rounds_good (I := fun _ => True) (steps := fun f (_ : Unit) => TextIn.stepsLoop f inc) (body := fun _ a => ((), stmtLoop inc (a.rest.length + 1) a []))
    (fun _ _ _ => rfl) (fun _ _ _ _ => rfl) (fun _ a _ => ⟨trivial, stmtLoop_ok inc _ a [] (List.forall_mem_nil _)⟩) f () a acc trivial h

/-- **C04 (ground text: structure and arguments)**: for EVERY byte string, the calls the ground-text reader delivers are
    well structured and carry only admissible arguments (see `C04_contract_aspif`): atoms from `x<n>`/`x_<n>` are in
    1..2^31−1 or come from single letters, weights of rule-body aggregates are non-negative (defect D16), external
    values and heuristic modifiers come from the fixed keyword lists. -/
theorem C04_contract_text (input : List Nat) : Good (TextIn.read input).calls := by
  unfold TextIn.read
  simp only
  split
  · exact Good.nil
  · exact Good.nil
  · exact tstepsLoop_good _ _ _ _ (Between.init _)

theorem C04_structure_text (input : List Nat) : ∃ st, run 0 (TextIn.read input).calls = some st := (C04_contract_text input).1

end PotasscoVerif.C04
