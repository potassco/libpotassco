/-
  C04 for the aspif reader (Model/AspifIn.lean).
-/
import PotasscoVerif.Lemmas.Contract
namespace PotasscoVerif.C04
open PotasscoVerif PotasscoVerif.CharStream
open PotasscoVerif.AspifIn (P Result)
open PotasscoVerif.AspifIn

theorem theory_post (rt : Nat) : Post (theory rt) DirOk :=
  .skip fun _ =>
  .ite _ (fun _ => .bind (intIn_post _ _) fun _ hn => .ok ⟨hn, rfl⟩) fun _ =>
  .ite _ (fun _ => .skip fun _ => .ok ⟨trivial, rfl⟩) fun _ =>
  .ite _ (fun _ => .bind (intIn_post _ _) fun _ ht => .skip fun _ => .ok ⟨ht, rfl⟩) fun _ =>
  .ite _ (fun _ => .skip fun _ => .bind lits_post fun _ hc => .ok ⟨hc, rfl⟩) fun _ =>
  .ite _ (fun _ => .skip fun _ => .skip fun _ => .ok ⟨trivial, rfl⟩) fun _ =>
  .ite _ (fun _ => .skip fun _ => .skip fun _ => .skip fun _ => .skip fun _ => .ok ⟨trivial, rfl⟩) fun _ =>
  .error

/-- cases in the order of `directive` -/
theorem directive_post (rt : Nat) : Post (directive rt) OptOk :=
  .ite _ (fun _ => .bind (posMax_post _) fun _ hht => .bind atoms_post fun _ hhd => .skip fun _ =>
    .ite _ (fun _ => .bind lits_post fun _ hb => .ok ⟨⟨hht, hhd, hb⟩, rfl⟩)
      fun _ => .bind (intIn_post _ _) fun _ hbnd => .bind (wlits_post 0 (by decide)) fun _ hb => .ok ⟨⟨hht, hhd, hbnd, hb⟩, rfl⟩) fun _ =>
  .ite _ (fun _ => .skip fun _ => .bind (wlits_post _ (Int.le_refl _)) fun _ hb => .ok ⟨fun q hq => ⟨(hb q hq).1, (hb q hq).2.2⟩, rfl⟩) fun _ =>
  .ite _ (fun _ => .bind atoms_post fun _ hl => .ok ⟨hl, rfl⟩) fun _ =>
  .ite _ (fun _ => .skip fun _ => .bind lits_post fun _ hc => .ok ⟨hc, rfl⟩) fun _ =>
  .ite _ (fun _ => .bind atom_post fun _ hx => .bind (posMax_post _) fun _ hv => .ok ⟨⟨hx, hv⟩, rfl⟩) fun _ =>
  .ite _ (fun _ => .bind lits_post fun _ hl => .ok ⟨hl, rfl⟩) fun _ =>
  .ite _ (fun _ => .bind (posMax_post _) fun _ ht => .bind atom_post fun _ hx => .bind (intIn_post _ _) fun _ hb => .skip fun _ =>
    .bind lits_post fun _ hc => .ok ⟨⟨hx, ht, hb, hc⟩, rfl⟩) fun _ =>
  .ite _ (fun _ => .skip fun _ => .skip fun _ => .bind lits_post fun _ hc => .ok ⟨hc, rfl⟩) fun _ =>
  .ite _ (fun _ => .skip fun _ => .bind (theory_post _) fun _ hc => .ok hc) fun _ =>
  .ite _ (fun _ => .ok trivial) fun _ =>
  .error

theorem dirStep_cont (a : AS) (c : Option Call) (a2 : AS) (h : dirStep a = .cont c a2) : OptOk c := by
  unfold dirStep at h
  split at h
  · cases h
  · split at h
    · cases h
    · split at h
      · cases h
      · rename_i hd; cases h; exact directive_post _ _ _ _ hd

theorem stepLoop_zero (a : AS) (acc : List Call) : stepLoop 0 a acc = (acc.reverse, .error a.line) := rfl
attribute [local irreducible] dirStep in
theorem stepLoop_succ (f : Nat) (a : AS) (acc : List Call) : stepLoop (f + 1) a acc = (match dirStep a with
    | .stop r => (acc.reverse, r)
    | .cont c a2 => stepLoop f a2 (match c with | some c => c :: acc | none => acc)) := rfl

theorem stepLoop_ok : ∀ (f : Nat) (a : AS) (acc : List Call), (∀ c ∈ acc, DirOk c) → StepOk (stepLoop f a acc) := by
  intro f
  induction f with
  | zero => intro a acc h; exact .rev h
  | succ f ih =>
    intro a acc h
    rw [stepLoop_succ]
    cases hs : dirStep a with
    | stop r => exact .rev h
    | cont cc a2 => exact ih a2 _ ((dirStep_cont _ _ _ hs).cons h)

attribute [local irreducible] stepLoop in
theorem stepsLoop_succ (f : Nat) (inc : Bool) (a : AS) (acc : List Call) : stepsLoop (f + 1) inc a acc =
    (match (stepLoop (a.rest.length + 1) a []).2 with
     | .error l => { calls := acc ++ [.beginStep] ++ (stepLoop (a.rest.length + 1) a []).1, err := some l }
     | .ok a1 =>
       if (more a1).1 && !inc then { calls := acc ++ [.beginStep] ++ (stepLoop (a.rest.length + 1) a []).1 ++ [.endStep], err := some (more a1).2.line }
       else if (more a1).1 then stepsLoop f inc (more a1).2 (acc ++ [.beginStep] ++ (stepLoop (a.rest.length + 1) a []).1 ++ [.endStep])
       else { calls := acc ++ [.beginStep] ++ (stepLoop (a.rest.length + 1) a []).1 ++ [.endStep], err := none }) := rfl

attribute [local irreducible] stepLoop in
theorem stepsLoop_good (f : Nat) (inc : Bool) (a : AS) (acc : List Call) (h : Between acc) : Good (stepsLoop f inc a acc).calls :=
  rounds_good (I := fun _ => True) (steps := fun f (_ : Unit) => stepsLoop f inc) (body := fun _ a => ((), stepLoop (a.rest.length + 1) a []))
    (fun _ _ _ => rfl) (fun _ _ _ _ => rfl) (fun _ a _ => ⟨trivial, stepLoop_ok _ a [] (List.forall_mem_nil _)⟩) f () a acc trivial h

/-- **C04 (aspif: structure and arguments)**: for EVERY byte string, the calls the aspif reader delivers — all of them, also
    those made before an error is reported — start with `initProgram`, put every directive between a `beginStep` and
    the matching `endStep` (the last step may be left open by an error), and carry only atoms in 1..2^31−1, non-zero
    literals over such atoms, non-negative rule-body weights and valid enumeration values. -/
theorem C04_contract_aspif (input : List Nat) : Good (AspifIn.read input).calls := by
  unfold AspifIn.read
  simp only
  split
  · exact Good.nil
  · exact Good.nil
  · split
    · exact (Between.init _).good
    · exact stepsLoop_good _ _ _ _ (Between.init _)

theorem C04_structure_aspif (input : List Nat) : ∃ st, run 0 (AspifIn.read input).calls = some st := (C04_contract_aspif input).1
end PotasscoVerif.C04
