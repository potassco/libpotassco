/-
  C10 (continued) — aggregates: `#minimize` statements and rules with weight bodies; `#heuristic`.
-/
import PotasscoVerif.Props.C10b
namespace PotasscoVerif.C10
open PotasscoVerif PotasscoVerif.CharStream PotasscoVerif.TextIn PotasscoVerif.Decimal PotasscoVerif.AspifOut
open PotasscoVerif.BufferedStream (isDigit isWs I64MAX)

structure AggItem where
  lit     : LitItem
  weight  : Option (List Nat × Int × List Nat)
  wsComma : List Nat

def AggItem.wText : Option (List Nat × Int × List Nat) → List Nat
  | some (w1, w, w2) => 61 :: (w1 ++ (printInt w ++ w2))
  | none => []
def AggItem.w (i : AggItem) : Int := match i.weight with | some (_, w, _) => w | none => 1
def AggItem.val (i : AggItem) : Int × Int := (i.lit.val, i.w)
def AggItem.okW : Option (List Nat × Int × List Nat) → Prop
  | some (w1, w, w2) => Filler w1 ∧ Filler w2 ∧ I32MIN ≤ w ∧ w ≤ I32MAX
  | none => True
def AggItem.ok (i : AggItem) : Prop := i.lit.ok ∧ AggItem.okW i.weight ∧ Filler i.wsComma

def aggItemsText : List AggItem → List Nat
  | [] => []
  | [i] => i.lit.text ++ AggItem.wText i.weight
  | i :: rest => i.lit.text ++ (AggItem.wText i.weight ++ (44 :: (i.wsComma ++ aggItemsText rest)))

theorem tok_int (c : Nat) (a : AS) (w1 : List Nat) (x : Int) (w2 k : List Nat) (hw1 : Filler w1) (hw2 : Filler w2)
    (hx : I32MIN ≤ x ∧ x ≤ I32MAX) (hk : Sep k) (hr : a.rest = c :: (w1 ++ (printInt x ++ (w2 ++ k)))) :
    ∃ a1 a2, tok [c] false a = .ok (true, a1) ∧ int a1 = .ok (x, a2) ∧ a2.rest = k := by
  obtain ⟨a1, h1, hr1⟩ := C10_tok a [c] w1 (printInt x ++ (w2 ++ k)) false hr hw1 (printInt_nws x _)
  obtain ⟨a2, h2, hr2⟩ := C10_int a1 x [] w2 k hr1 Filler.nil hw2 hk hx
  exact ⟨a1, a2, h1, h2, hr2⟩

theorem wText_sep (w : Option (List Nat × Int × List Nat)) (k : List Nat) (hk : Sep k) : Sep (AggItem.wText w ++ k) := by
  rcases w with _ | ⟨w1, w, w2⟩
  · exact hk
  · exact Sep.cons (by decide) _

theorem aggItemsText_head (items : List AggItem) (hok : ∀ i ∈ items, i.ok) (t : List Nat) :
    items = [] ∨ ∃ c r, aggItemsText items ++ t = c :: r ∧ isLower c = true := by
  cases items with
  | nil => exact Or.inl rfl
  | cons i rest =>
    have hi := (hok i (List.mem_cons_self ..)).1
    cases rest <;> (simp only [aggItemsText, List.append_assoc]; exact Or.inr (litItem_head i.lit hi _))

theorem aggItemsText_nws (items : List AggItem) (hok : ∀ i ∈ items, i.ok) {k : List Nat} (hk : NWS k) : NWS (aggItemsText items ++ k) := by
  rcases aggItemsText_head items hok k with rfl | h
  · exact hk
  · exact lower_nws h

theorem weight_spec (a : AS) (i : AggItem) (k : List Nat) (hw : AggItem.okW i.weight) (hk : Sep k)
    (hk61 : ([61] : List Nat).isPrefixOf k = false) (hr : a.rest = AggItem.wText i.weight ++ k) :
    ∃ a1 a2, tok [61] false a = .ok (i.weight.isSome, a1) ∧ (if i.weight.isSome then int a1 else .ok (1, a1)) = .ok (i.w, a2) ∧ a2.rest = k := by
  obtain ⟨_, w, _⟩ := i
  rcases w with _ | ⟨w1, x, w2⟩
  · obtain ⟨a1, h1, hr1⟩ := tok_absent a [61] hr hk61
    exact ⟨a1, a1, h1, rfl, hr1⟩
  · simp only [AggItem.wText, List.cons_append, List.append_assoc] at hr
    obtain ⟨a1, a2, h1, h2, hr2⟩ := tok_int 61 a w1 x w2 k hw.1 hw.2.1 hw.2.2 hk hr
    exact ⟨a1, a2, h1, h2, hr2⟩

theorem aggLoop_spec (items : List AggItem) (hne : items ≠ []) (hok : ∀ i ∈ items, i.ok) (wsClose k : List Nat) (hwc : Filler wsClose) (hk : NWS k)
    (f : Nat) (a : AS) (hf : a.rest.length < f) (acc : List (Int × Int)) (hr : a.rest = aggItemsText items ++ (125 :: (wsClose ++ k))) :
    ∃ a', aggLoop f a acc = .ok (acc ++ items.map AggItem.val, a') ∧ a'.rest = k := by
  induction items generalizing f a acc with
  | nil => exact absurd rfl hne
  | cons i rest ih =>
    obtain ⟨⟨hl, hw, hc⟩, hok'⟩ := List.forall_mem_cons.1 hok
    cases f with
    | zero => omega
    | succ f =>
      cases rest with
      | nil =>
        simp only [aggItemsText, List.append_assoc] at hr
        obtain ⟨a1, h1, hr1⟩ := C10_lit a i.lit _ hl hr (wText_sep i.weight _ (Sep.cons (by decide) _))
        obtain ⟨a2, a3, h2, h3, hr3⟩ := weight_spec a1 i (125 :: (wsClose ++ k)) hw (Sep.cons (by decide) _) rfl hr1
        obtain ⟨a4, h4, hr4⟩ := tok_absent a3 [44] hr3 rfl
        obtain ⟨a5, h5, hr5⟩ := C10_tok a4 [125] wsClose k true hr4 hwc hk
        exact ⟨a5, by simp only [aggLoop, h1, h2, h3, h4, h5, List.map_cons, List.map_nil, AggItem.val], hr5⟩
      | cons q rest' =>
        simp only [aggItemsText, List.append_assoc, List.cons_append] at hr
        obtain ⟨a1, h1, hr1⟩ := C10_lit a i.lit _ hl hr (wText_sep i.weight _ (Sep.cons (by decide) _))
        obtain ⟨a2, a3, h2, h3, hr3⟩ := weight_spec a1 i _ hw (Sep.cons (by decide) _) rfl hr1
        obtain ⟨a4, h4, hr4⟩ := C10_tok a3 [44] i.wsComma _ false hr3 hc (aggItemsText_nws (q :: rest') hok' (nws_cons (by decide) _))
        obtain ⟨a5, h5, hr5⟩ := ih (by simp) hok' f a4
          (by rw [hr] at hf; rw [hr4]; simp only [List.length_append, List.length_cons] at hf ⊢; omega) (acc ++ [i.val]) hr4
        have e : (i.lit.val, i.w) = i.val := rfl
        exact ⟨a5, by simp only [aggLoop, h1, h2, h3, h4, e, h5, List.map_cons, List.append_assoc, List.singleton_append], hr5⟩

structure AggS where
  wsOpen  : List Nat
  items   : List AggItem
  wsClose : List Nat
def AggS.text (g : AggS) : List Nat := 123 :: (g.wsOpen ++ (aggItemsText g.items ++ (125 :: g.wsClose)))
def AggS.ok (g : AggS) : Prop := Filler g.wsOpen ∧ Filler g.wsClose ∧ ∀ i ∈ g.items, i.ok
/-- what the rule builder keeps: weight 0 is dropped -/
def AggS.vals (g : AggS) : List (Int × Int) := (g.items.map AggItem.val).filter (fun p => p.2 ≠ 0)

/-- **C10 (aggregates)**: `{ l1 [= w1], … }` with any filler, any spelling; elements of weight 0 are omitted -/
theorem C10_agg (a : AS) (g : AggS) (k : List Nat) (hok : g.ok) (hk : NWS k) (hr : a.rest = g.text ++ k) :
    ∃ a', agg a = .ok (g.vals, a') ∧ a'.rest = k := by
  obtain ⟨hw1, hw2, hit⟩ := hok
  simp only [AggS.text, List.cons_append, List.append_assoc] at hr
  obtain ⟨a1, h1, hr1⟩ := C10_tok a [123] g.wsOpen _ true hr hw1 (aggItemsText_nws g.items hit (nws_cons (by decide) _))
  unfold agg AggS.vals
  by_cases hne : g.items = []
  · rw [hne] at hr1 ⊢
    obtain ⟨a2, h2, hr2⟩ := C10_tok a1 [125] g.wsClose k false hr1 hw2 hk
    exact ⟨a2, by simp only [h1, h2, List.map_nil, List.filter_nil], hr2⟩
  · obtain ⟨c, t, e, hc⟩ := (aggItemsText_head g.items hit (125 :: (g.wsClose ++ k))).resolve_left hne
    obtain ⟨a2, h2, hr2⟩ := tok_absent a1 [125] (hr1.trans e) (not_prefix_cons (by have := isLower_iff.1 hc; omega) _ _)
    obtain ⟨a3, h3, hr3⟩ := aggLoop_spec g.items hne hit g.wsClose k hw2 hk _ a2 (Nat.lt_succ_self _) [] (hr2.trans e.symm)
    exact ⟨a3, by simp only [h1, h2, h3, List.nil_append], hr3⟩

/-- `#minimize{…}.` / `#minimize{…}@p.` -/
structure MinimizeS where
  ws0   : List Nat
  agg   : AggS
  prio  : Option (List Nat × Int × List Nat)
  wsDot : List Nat

def prioText : Option (List Nat × Int × List Nat) → List Nat
  | some (w1, p, w2) => 64 :: (w1 ++ (printInt p ++ w2))
  | none => []
def prioVal : Option (List Nat × Int × List Nat) → Int
  | some (_, p, _) => p
  | none => 0
def MinimizeS.text (m : MinimizeS) : List Nat := kwMinimize ++ (m.ws0 ++ (m.agg.text ++ (prioText m.prio ++ (46 :: m.wsDot))))
def MinimizeS.ok (m : MinimizeS) : Prop := Filler m.ws0 ∧ m.agg.ok ∧ AggItem.okW m.prio ∧ Filler m.wsDot

theorem dMinimize_spec (a : AS) (m : MinimizeS) (k : List Nat) (hok : m.ok) (hk : NWS k)
    (hr : a.rest = m.agg.text ++ (prioText m.prio ++ (46 :: m.wsDot)) ++ k) :
    ∃ a', dMinimize a = .ok (.call (.minimize (prioVal m.prio) m.agg.vals), a') ∧ a'.rest = k := by
  obtain ⟨_, hg, hp, hwd⟩ := hok
  rw [List.append_assoc, List.append_assoc] at hr
  obtain ⟨a1, h1, hr1⟩ := C10_agg a m.agg _ hg (by cases m.prio <;> exact nws_cons (by decide) _) hr
  unfold dMinimize
  rcases hpr : m.prio with _ | ⟨w1, x, w2⟩ <;> rw [hpr] at hr1 hp
  · obtain ⟨a2, h2, hr2⟩ := tok_absent a1 [64] hr1 rfl
    obtain ⟨a3, h3, hr3⟩ := C10_tok a2 [46] m.wsDot k true hr2 hwd hk
    exact ⟨a3, by simp only [bind, Except.bind, h1, h2, Bool.false_eq_true, ↓reduceIte, h3, pure, Except.pure, prioVal], hr3⟩
  · simp only [prioText, List.cons_append, List.append_assoc] at hr1
    obtain ⟨a2, a3, h2, h3, hr3⟩ := tok_int 64 a1 w1 x w2 _ hp.1 hp.2.1 hp.2.2 (Sep.cons (by decide) _) hr1
    obtain ⟨a4, h4, hr4⟩ := C10_tok a3 [46] m.wsDot k true hr3 hwd hk
    exact ⟨a4, by simp only [bind, Except.bind, h1, h2, ↓reduceIte, h3, h4, pure, Except.pure, prioVal], hr4⟩

/-- a rule with a weight body: `head :- bound { l1 [= w1], … }.` -/
structure WRuleS where
  head    : HeadS
  wsArrow : List Nat
  bound   : Int
  wsBound : List Nat
  agg     : AggS
  wsDot   : List Nat

def WRuleS.text (r : WRuleS) : List Nat :=
  r.head.text ++ (58 :: 45 :: (r.wsArrow ++ (printInt r.bound ++ (r.wsBound ++ (r.agg.text ++ (46 :: r.wsDot))))))
def WRuleS.call (r : WRuleS) : Call := .sumRule r.head.ht r.head.atoms r.bound r.agg.vals
def WRuleS.ok (r : WRuleS) : Prop :=
  r.head.ok ∧ Filler r.wsArrow ∧ (I32MIN ≤ r.bound ∧ r.bound ≤ I32MAX) ∧ Filler r.wsBound ∧ r.agg.ok ∧ Filler r.wsDot ∧ ∀ i ∈ r.agg.items, 0 ≤ i.w

/-- **C10 (weight rules)**: `head :- bound { l1 [= w1], … }.` -/
theorem C10_wrule (a : AS) (r : WRuleS) (k : List Nat) (hok : r.ok) (hk : NWS k) (hr : a.rest = r.text ++ k) :
    ∃ a', rule ((r.text ++ k).headD 0) a = .ok (r.call, a') ∧ a'.rest = k := by
  obtain ⟨hh, hwa, hb, hwb, hg, hwd, hpos⟩ := hok
  simp only [WRuleS.text, List.append_assoc, List.cons_append] at hr ⊢
  obtain ⟨a1, h1, hr1⟩ := ruleHead_spec a r.head _ hh ⟨58, _, rfl, Or.inl rfl⟩ hr
  obtain ⟨a2, h2, hr2⟩ := C10_tok a1 [58, 45] r.wsArrow _ false hr1 hwa (printInt_nws r.bound _)
  -- the first character behind `:-` is a digit or `-`: an aggregate follows
  obtain ⟨c, t, e, hc⟩ := printInt_head r.bound (r.wsBound ++ (r.agg.text ++ (46 :: (r.wsDot ++ k))))
  have hs : a2.skipWs.rest = c :: t := (skipWs_nws a2 hr2 (printInt_nws r.bound _)).trans e
  have hcond : (!isDigit c && c != 45) = false := by rcases hc with h | rfl; rw [h]; rfl; rfl
  obtain ⟨a3, h3, hr3⟩ := C10_int a2.skipWs r.bound [] r.wsBound _ (hs.trans e.symm) Filler.nil hwb (Sep.cons (by decide) _ : Sep (r.agg.text ++ _)) hb
  obtain ⟨a4, h4, hr4⟩ := C10_agg a3 r.agg (46 :: (r.wsDot ++ k)) hg (nws_cons (by decide) _) hr3
  obtain ⟨a5, h5, hr5⟩ := C10_tok a4 [46] r.wsDot k true hr4 hwd hk
  have hnoneg : (r.agg.vals.any (fun q => decide (q.2 < 0))) = false := by
    rw [List.any_eq_false]
    intro q hq
    simp only [AggS.vals, List.mem_filter, List.mem_map] at hq
    obtain ⟨⟨i, hi, rfl⟩, _⟩ := hq
    have := hpos i hi
    rw [show i.val.2 = i.w from rfl]; simp only [decide_eq_true_eq]; omega
  refine ⟨a5, ?_, hr5⟩
  simp only [rule, h1, ruleBody, bind, Except.bind, h2, ↓reduceIte, peekWs_cons hs, hcond, Bool.false_eq_true, h3, h4, hnoneg, h5, pure, Except.pure,
    WRuleS.call]

/-- `#heuristic a [: cond]. [bias[@prio], modifier]` -/
structure HeuS where
  ws0     : List Nat
  atom    : AtomItem
  cond    : Option BodyS
  wsDot   : List Nat
  wsOpen  : List Nat
  bias    : Int
  wsBias  : List Nat
  prio    : Option (List Nat × Int × List Nat)
  wsComma : List Nat
  mod     : Nat
  wsMod   : List Nat
  wsClose : List Nat

def HeuS.tail (h : HeuS) : List Nat :=
  h.atom.text ++ (condText h.cond ++ (46 :: (h.wsDot ++ (91 :: (h.wsOpen ++ (printInt h.bias ++ (h.wsBias ++ (prioText h.prio ++
    (44 :: (h.wsComma ++ (heuNames.getD h.mod [] ++ (h.wsMod ++ (93 :: h.wsClose)))))))))))))
def HeuS.text (h : HeuS) : List Nat := kwHeuristic ++ (h.ws0 ++ h.tail)
def HeuS.call (h : HeuS) : Call := .heuristic h.atom.n h.mod h.bias (prioVal h.prio).toNat (bodyVals h.cond)
def HeuS.ok (h : HeuS) : Prop :=
  Filler h.ws0 ∧ h.atom.ok ∧ bodyOk h.cond ∧ Filler h.wsDot ∧ Filler h.wsOpen ∧ (I32MIN ≤ h.bias ∧ h.bias ≤ I32MAX) ∧ Filler h.wsBias ∧
  AggItem.okW h.prio ∧ 0 ≤ prioVal h.prio ∧ Filler h.wsComma ∧ h.mod < 6 ∧ Filler h.wsMod ∧ Filler h.wsClose

/-- the words of the table clash pairwise, so the one that is there is the one that is found -/
theorem heuMod_table (tbl : List (List Nat)) (hpw : tbl.Pairwise (fun u v => clash u v = true)) (m : Nat) (hm : m < tbl.length) (x : Nat)
    (a : AS) (ws k : List Nat) (hws : Filler ws) (hk : NWS k) (hr : a.rest = tbl[m] ++ (ws ++ k)) :
    ∃ a', heuMod tbl x a = some (x + m, a') ∧ a'.rest = k := by
  induction tbl generalizing m x with
  | nil => exact absurd hm (Nat.not_lt_zero _)
  | cons w r ih =>
    rw [List.pairwise_cons] at hpw
    cases m with
    | zero =>
      obtain ⟨h1, h2⟩ := matchTok_present a w ws k hr hws hk
      exact ⟨_, by simp only [heuMod, h1, ↓reduceIte, Nat.add_zero], h2⟩
    | succ m =>
      have hm' : m < r.length := Nat.lt_of_succ_lt_succ hm
      rw [List.getElem_cons_succ] at hr
      have hn : (a.matchTok w).1 = false := by
        unfold AS.matchTok
        rw [hr, clash_not_prefix _ (hpw.1 _ (List.getElem_mem hm'))]; rfl
      obtain ⟨a', h, hr'⟩ := ih hpw.2 m hm' (x + 1) hr
      exact ⟨a', by simp only [heuMod, hn, Bool.false_eq_true, ↓reduceIte, h, Nat.add_assoc, Nat.add_comm 1 m], hr'⟩

theorem heuMod_spec (a : AS) (m : Nat) (hm : m < 6) (ws k : List Nat) (hws : Filler ws) (hk : NWS k) (hr : a.rest = heuNames.getD m [] ++ (ws ++ k)) :
    ∃ a', heuMod heuNames 0 a = some (m, a') ∧ a'.rest = k := by
  have hm' : m < heuNames.length := hm
  rw [List.getD_eq_getElem?_getD, List.getElem?_eq_getElem hm', Option.getD_some] at hr
  have := heuMod_table heuNames (by decide) m hm' 0 a ws k hws hk hr
  rwa [Nat.zero_add] at this

theorem heuName_nws (m : Nat) (hm : m < 6) (t : List Nat) : NWS (heuNames.getD m [] ++ t) := by
  match m, hm with
  | 0, _ | 1, _ | 2, _ | 3, _ | 4, _ | 5, _ => exact nws_cons (by decide) _

/-- `heuMod` ends with a `skipWs` of its own, and `dHeuristic` skips blanks once more before `]`. -/
theorem heuTail_spec (a : AS) (m : Nat) (hm : m < 6) (wc wm wcl k : List Nat) (hwc : Filler wc) (hwm : Filler wm) (hwcl : Filler wcl)
    (hk : NWS k) (hr : a.rest = 44 :: (wc ++ (heuNames.getD m [] ++ (wm ++ (93 :: (wcl ++ k)))))) :
    ∃ a1 a2 a3, tok [44] true a = .ok (true, a1) ∧ heuMod heuNames 0 a1 = some (m, a2) ∧ tok [93] true a2.skipWs = .ok (true, a3) ∧
      a3.rest = k := by
  obtain ⟨a1, e1, r1⟩ := C10_tok a [44] wc _ true hr hwc (heuName_nws m hm _)
  obtain ⟨a2, e2, r2⟩ := heuMod_spec a1 m hm wm (93 :: (wcl ++ k)) hwm (nws_cons (by decide) _) r1
  obtain ⟨a3, e3, r3⟩ := C10_tok a2.skipWs [93] wcl k true (skipWs_nws a2 r2 (nws_cons (by decide) _)) hwcl hk
  exact ⟨a1, a2, a3, e1, e2, e3, r3⟩

theorem dHeuristic_spec (a : AS) (h : HeuS) (k : List Nat) (hok : h.ok) (hk : NWS k) (hr : a.rest = h.tail ++ k) :
    ∃ a', dHeuristic a = .ok (.call h.call, a') ∧ a'.rest = k := by
  obtain ⟨_, hat, hc, hwd, hwo, hb, hwb, hp, hp0, hwc, hm, hwm, hwcl⟩ := hok
  simp only [HeuS.tail, AtomItem.text, List.append_assoc, List.cons_append] at hr
  obtain ⟨a1, e1, r1⟩ := C10_atom_spellings a h.atom.n h.atom.sp h.atom.wsAfter _ hat.1 hr hat.2
    (by cases h.cond <;> exact Sep.cons (by decide) _)
  obtain ⟨a2, e2, r2⟩ := condition_spec a1 h.cond _ hc (Sep.cons (by decide) _) rfl rfl r1
  obtain ⟨a3, e3, r3⟩ := C10_tok a2 [46] h.wsDot _ true r2 hwd (nws_cons (by decide) _)
  obtain ⟨a4, e4, r4⟩ := C10_tok a3 [91] h.wsOpen _ true r3 hwo (printInt_nws h.bias _)
  obtain ⟨a5, e5, r5⟩ := C10_int a4 h.bias [] h.wsBias _ r4 Filler.nil hwb (by cases h.prio <;> exact Sep.cons (by decide) _) hb
  unfold dHeuristic HeuS.call
  rcases hpr : h.prio with _ | ⟨w1, x, w2⟩ <;> rw [hpr] at r5 hp hp0
  · obtain ⟨a6, e6, r6⟩ := tok_absent a5 [64] r5 rfl
    obtain ⟨a7, a8, a9, e7, e8, e9, r9⟩ := heuTail_spec a6 h.mod hm _ _ _ k hwc hwm hwcl hk r6
    exact ⟨a9, by simp only [bind, Except.bind, e1, e2, e3, e4, e5, e6, Bool.false_eq_true, ↓reduceIte, e7, e8, e9, pure, Except.pure,
      prioVal], r9⟩
  · simp only [prioVal] at hp0
    simp only [prioText, List.cons_append, List.append_assoc] at r5
    obtain ⟨a6, a6', e6, e6', r6'⟩ := tok_int 64 a5 w1 x w2 _ hp.1 hp.2.1 hp.2.2 (Sep.cons (by decide) _) r5
    obtain ⟨a7, a8, a9, e7, e8, e9, r9⟩ := heuTail_spec a6' h.mod hm _ _ _ k hwc hwm hwcl hk r6'
    exact ⟨a9, by simp only [bind, Except.bind, e1, e2, e3, e4, e5, e6, ↓reduceIte, e6', hp0, e7, e8, e9, pure, Except.pure, prioVal], r9⟩

end PotasscoVerif.C10
