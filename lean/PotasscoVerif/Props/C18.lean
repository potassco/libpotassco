/-
  C18 — signals: delivered at once when unblocked, deferred exactly once while blocked.

  Machine: Model/Signals.lean (atomic steps of processSignal / unblockSignals / blockSignals, arrivals at every
  point incl. inside callbacks, unbounded nesting).  All theorems are for ALL schedules (lists of choices of any
  length) from the initial state of ANY main program; impossible choices are skipped by `run`.
-/
import PotasscoVerif.Lemmas.Signals
namespace PotasscoVerif.C18
open PotasscoVerif.Signals

/-- of the repaired code (`pristine = false`). -/
def Reachable (s : St) : Prop := ∃ main cs, s = run false (St.init main) cs

theorem reachable_inv {s : St} (h : Reachable s) : Acc s ∧ Lin s := by
  obtain ⟨main, cs, rfl⟩ := h
  exact ⟨run_inv trans_acc cs _ (acc_init main), run_inv trans_lin cs _ (lin_init main)⟩

/-- **Block-count accounting.** In every reachable state `blocked_` equals: the application's own blocks +
    callbacks that asked to stop (returned false) + the `processSignal` frames that are between their
    increment and their decrement.  Hence every `processSignal` that does not end in a `false` callback gives
    back exactly the one increment it took, and the count returns to its previous value. -/
theorem C18_blocked_accounting (s : St) (h : Reachable s) :
    s.blocked = s.appDepth + s.stuck + contribs s.stack :=
  (reachable_inv h).1.count

/-- **A callback is only entered while nothing blocks delivery.** Whenever a `processSignal` frame finds
    `blocked_ = 0` at its increment (the only way to reach `onSignal`, see `C18_immediate`), the application is
    in no block section, no earlier callback asked to stop, and no other frame on the stack is inside a
    callback or between its increment and decrement — in particular no callback is running. -/
theorem C18_callback_entry_unblocked (s : St) (h : Reachable s) (hb : s.blocked = 0) :
    s.appDepth = 0 ∧ s.stuck = 0 ∧ ∀ f ∈ s.stack, contrib f = 0 := by
  obtain ⟨hak, hc⟩ := Nat.add_eq_zero_iff.mp ((C18_blocked_accounting s h).symm.trans hb)
  obtain ⟨ha, hk⟩ := Nat.add_eq_zero_iff.mp hak
  exact ⟨ha, hk, fun f hf => List.sum_eq_zero_iff_forall_eq_nat.mp hc _ (List.mem_map_of_mem hf)⟩

/-- **Delivered at once iff unblocked.** The step of a `processSignal` frame at its increment goes to the
    callback (`callStart`, executed as its very next step: `C18_callstart_step`) exactly when it read
    `blocked_ = 0`, and to the pending-slot path otherwise; the path to the pending slot never reaches a callback
    (`C18_blocked_path_no_callback`). -/
theorem C18_immediate (p : Bool) (s : St) (sig id : Nat) (intr r : Bool) (rest : List Frame)
    (hst : s.stack = .ps sig id .inc intr :: rest) :
    ∃ s', step p s (.step r) = some s' ∧ s'.blocked = s.blocked + 1 ∧
      s'.stack = .ps sig id (if s.blocked = 0 then .callStart else .checkPending) intr :: rest := by
  simp [step, hst]

theorem C18_callstart_step (p : Bool) (s : St) (sig id : Nat) (intr r : Bool) (rest : List Frame)
    (hst : s.stack = .ps sig id .callStart intr :: rest) :
    ∃ s', step p s (.step r) = some s' ∧ s'.log = s.log ++ [.callStart sig id] := by
  simp [step, hst]

/-- while blocked: no step of the pending-slot path logs a callback. -/
theorem C18_blocked_path_no_callback (p : Bool) (s s' : St) (sig id : Nat) (intr r : Bool) (rest : List Frame) (pc : PsPc)
    (hpc : pc = .checkPending ∨ pc = .setPending ∨ pc = .dec)
    (hst : s.stack = .ps sig id pc intr :: rest) (hs : step p s (.step r) = some s') :
    ∀ sg i, Ev.callStart sg i ∉ s'.log.drop s.log.length := by
  rcases hpc with h | h | h <;> subst h <;> simp [step, hst] at hs <;> subst hs <;> simp

/-- **A remembered signal is never lost.** In the repaired code the pending slot changes from a remembered
    signal only (a) in the release step of an outermost `unblockSignals`, which in the same atomic step hands the
    value to the delivery (or drops it when delivery was not requested) and records it as taken, or (b) when an
    overlapping blocked arrival, whose check ran earlier, stores its own signal (still exactly one remembered). -/
theorem C18_no_loss (s s' : St) (c : Choice) (hs : step false s c = some s') (hp : s.pending.1 ≠ 0)
    (hne : s'.pending ≠ s.pending) (hnc : ∀ d pend, Frame.ub d .clear pend ∉ s.stack) :
    (∃ d pend rest, s.stack = .ub d .xchg pend :: rest ∧ s'.log = s.log ++ [.taken s.pending.1 s.pending.2 d] ∧
        s'.stack = (if d then .ub d .deliver s.pending :: rest else rest)) ∨
    (∃ sig id intr rest, s.stack = .ps sig id .setPending intr :: rest ∧ s'.pending = (sig, id)) := by
  cases step_trans hs with
  | setPending hst => exact .inr ⟨_, _, _, _, hst, rfl⟩
  | @xchg d _ _ hst =>
    refine .inl ⟨_, _, _, hst, ?_, ?_⟩
    · show s.log ++ (if _ then _ else _) = _; rw [if_pos hp]
    · show (if _ then _ else _) = _; simp only [hp, ne_eq, not_false_eq_true, true_and]
  | read _ hp => cases hp
  | clear hst => exact absurd (hst ▸ List.mem_cons_self) (hnc _ _)
  | _ => exact absurd rfl hne   -- every other step leaves `pending` as it is

theorem C18_no_clear_reachable (s : St) (h : Reachable s) : ∀ d pend, Frame.ub d .clear pend ∉ s.stack :=
  (reachable_inv h).2.noClear

/-- **a release that is not the outermost one leaves the remembered signal where it is**: the first step of `unblockSignals` only lowers the
    count; when other blocks are still in force the call ends there — the slot and the log are untouched -/
theorem C18_inner_release_keeps (pr : Bool) (s : St) (d r : Bool) (pend : Nat × Nat) (rest : List Frame)
    (hs : s.stack = .ub d .dec pend :: rest) (hb : s.blocked ≠ 1) :
    ∃ s', step pr s (.step r) = some s' ∧ s'.pending = s.pending ∧ s'.log = s.log ∧ s'.stack = rest ∧ s'.blocked = s.blocked - 1 := by
  refine ⟨{ s with blocked := s.blocked - 1, appDepth := s.appDepth - 1, stack := rest }, ?_, rfl, rfl, rfl, rfl⟩
  simp only [step, hs, hb, if_false]

/-- **Handed to the callback at most once.** In every reachable state of the repaired code, no arrival
    (identified by its unique id) occurs twice among the callback invocations; moreover an arrival that has
    reached the callback is no longer carried by any frame, by the pending slot or by a release in progress,
    and no arrival has two carriers (so the remembered signal cannot be delivered twice, e.g. once by the
    release and once from the slot). -/
theorem C18_delivered_at_most_once (s : St) (h : Reachable s) :
    (calledIds s.log).Nodup ∧ (carriers s).Nodup ∧ ∀ id ∈ calledIds s.log, id ∉ carriers s := by
  have hl := (reachable_inv h).2
  exact ⟨hl.once, hl.nodup, fun id hi => (hl.called id hi).1⟩

/-! #### "exactly one is remembered — the first, when arrivals do not interrupt one another" -/

/-- a blocked arrival that finds a remembered signal and is not interrupted between its check and its last step leaves the
    slot alone (nothing is queued, the frame is gone) -/
theorem C18_blocked_keeps_first (pr : Bool) (s : St) (sig id : Nat) (intr : Bool) (rest : List Frame)
    (h : s.stack = .ps sig id .checkPending intr :: rest) (hp : s.pending.1 ≠ 0) (r1 r2 : Bool) :
    ∃ s1 s2, step pr s (.step r1) = some s1 ∧ step pr s1 (.step r2) = some s2 ∧
      s2.pending = s.pending ∧ s2.stack = rest ∧ s2.log = s.log ∧ s2.blocked = s.blocked - 1 := by
  refine ⟨{ s with stack := .ps sig id .dec intr :: rest }, { s with blocked := s.blocked - 1, stack := rest }, ?_, ?_, rfl, rfl, rfl, rfl⟩
  · simp only [step, h, hp, ↓reduceIte]
  · simp only [step]

/-- … and one that finds the slot empty is remembered (uninterrupted: check, store, leave) -/
theorem C18_blocked_first_remembered (pr : Bool) (s : St) (sig id : Nat) (intr : Bool) (rest : List Frame)
    (h : s.stack = .ps sig id .checkPending intr :: rest) (hp : s.pending.1 = 0) (r1 r2 r3 : Bool) :
    ∃ s1 s2 s3, step pr s (.step r1) = some s1 ∧ step pr s1 (.step r2) = some s2 ∧ step pr s2 (.step r3) = some s3 ∧
      s3.pending = (sig, id) ∧ s3.stack = rest ∧ s3.log = s.log ++ [.queued sig id] := by
  refine ⟨{ s with stack := .ps sig id .setPending intr :: rest },
    { s with pending := (sig, id), log := s.log ++ [.queued sig id], stack := .ps sig id .dec intr :: rest },
    { s with pending := (sig, id), log := s.log ++ [.queued sig id], blocked := s.blocked - 1, stack := rest }, ?_, ?_, ?_, rfl, rfl, rfl⟩
  · simp only [step, h, hp, ↓reduceIte]
  · simp only [step]
  · simp only [step]

/-! #### the defect of the original code, exhibited in the same machine (`pristine = true`) -/

/-- the schedule of D11: block; unblock(deliver): blocked_ drops to 0 and the (empty) pending slot is read;
    signal 2 arrives between the read and the clear, is delivered at once and, inside its callback, is
    interrupted by signal 3, which is queued (the slot is empty); the clear then erases signal 3. -/
def lossSchedule : List Choice :=
  [.step true, .step true, .step true, .step true,                  -- block; unblock: start, dec, read pending (= none)
   .arrive 2, .step true, .step true,                               -- 2 arrives: inc sees 0, callback entered
   .arrive 3, .step true, .step true, .step true, .step true,      -- 3 arrives inside the callback: queued
   .step true, .step true]                                          -- callback of 2 ends, dec

def finalOf (p : Bool) : St := drain p 100 (run p (St.init [.block, .unblock true, .work]) lossSchedule)

/-- original code: signal 3 was queued, is neither pending at the end nor ever taken or delivered: it is lost. -/
theorem C18_pristine_loses :
    (Ev.queued 3 2 ∈ (finalOf true).log) ∧ (finalOf true).pending = (0, 0) ∧
    (Ev.callStart 3 2 ∉ (finalOf true).log) ∧ (∀ d, Ev.taken 3 2 d ∉ (finalOf true).log) := by
  decide +kernel

/-- repaired code, same schedule: signal 3 is still remembered at the end. -/
theorem C18_repaired_keeps : (finalOf false).pending = (3, 2) ∧ (finalOf false).stack = [] := by decide +kernel

/-! non-vacuity of the invariants: a reachable state with an application block in force and a blocked arrival under
    way; a running callback interrupted by a second arrival, which finds `blocked_ = 1` -/
example : Reachable (run false (St.init [.block, .unblock true]) [.step true, .arrive 1, .step true]) := ⟨_, _, rfl⟩
example : (run false (St.init [.work]) [.arrive 1, .step true, .step true, .arrive 2, .step true]).blocked = 2 := by decide +kernel

end PotasscoVerif.C18
