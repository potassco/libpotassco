/-
  C16 (continued) — texts in the other bases and the keywords.
  `C16_hex_signed/_unsigned`, `C16_octal_signed/_unsigned`: a text made of the base prefix, a digit string of ANY length
  and then its end or a character that is no digit of the base is accepted for a type iff the number it denotes in that
  base lies in the type's range; then the value is exactly that number and the end position is right behind the digits.
  `C16_keyword_*`: the texts `imax`, `imin`, `umax`, `-1`.
-/
import PotasscoVerif.Props.C16
namespace PotasscoVerif.C16
open PotasscoVerif.StringConvert

theorem not_space_48 {l : List Nat} : ∀ c r, 48 :: l = c :: r → isSpace c = false := fun _ _ e => by cases e; rfl

def HexX (c : Nat) : Prop := c = 120 ∨ c = 88

theorem strto_hex (xc : Nat) (hx : HexX xc) (ds k : List Nat) (hds : ∀ c ∈ ds, (digitOf 16 c).isSome = true) (hne : ds ≠ []) (hk : NoDig 16 k) :
    strto (48 :: xc :: (ds ++ k)) 16 = { neg := false, mag := valB 16 ds 0, used := 2 + ds.length } := by
  refine strto_run 16 _ _ ds k false 0 2 not_space_48 (splitSign_of_ne _ (by decide) (by decide)) ?_ hds hne hk
  obtain ⟨d, r, rfl⟩ := List.exists_cons_of_ne_nil hne
  have : (xc == 120 || xc == 88) = true := by rcases hx with h | h <;> rw [h] <;> rfl
  simp only [List.cons_append, splitPrefix, this, hds d List.mem_cons_self, BEq.rfl, Bool.and_self, ↓reduceIte]

theorem detectBase_hex (xc : Nat) (r : List Nat) (hx : HexX xc) : detectBase (48 :: xc :: r) = 16 :=
  (detectBase_zero xc r).trans (if_pos hx)

/-- **hexadecimal texts, signed types** -/
theorem C16_hex_signed (xc : Nat) (hx : HexX xc) (ds k : List Nat) (lo hi : Int)
    (hds : ∀ c ∈ ds, (digitOf 16 c).isSome = true) (hne : ds ≠ []) (hk : NoDig 16 k) (hlo : LLMIN ≤ lo) (hhi : hi ≤ LLMAX) :
    parseSigned (48 :: xc :: (ds ++ k)) lo hi =
      (if lo ≤ (valB 16 ds 0 : Int) ∧ (valB 16 ds 0 : Int) ≤ hi then some ((valB 16 ds 0 : Int), 2 + ds.length) else none) :=
  parseSigned_strto 48 _ lo hi hlo hhi (by decide) (detectBase_hex xc _ hx) _ (strto_hex xc hx ds k hds hne hk)
    (Nat.ne_of_gt (Nat.add_pos_left (Nat.succ_pos 1) _))

/-- **hexadecimal texts, unsigned types** -/
theorem C16_hex_unsigned (xc : Nat) (hx : HexX xc) (ds k : List Nat) (uMax : Nat)
    (hds : ∀ c ∈ ds, (digitOf 16 c).isSome = true) (hne : ds ≠ []) (hk : NoDig 16 k) (hmax : uMax ≤ ULLMAX) :
    parseUnsigned (48 :: xc :: (ds ++ k)) uMax = (if valB 16 ds 0 ≤ uMax then some (valB 16 ds 0, 2 + ds.length) else none) :=
  parseUnsigned_strto 48 _ uMax hmax (by decide) (by decide) (by decide) (detectBase_hex xc _ hx) _ _ (strto_hex xc hx ds k hds hne hk)
    (Nat.ne_of_gt (Nat.add_pos_left (Nat.succ_pos 1) _))

def Oct (c : Nat) : Prop := 48 ≤ c ∧ c ≤ 55

theorem digitOf8 (c : Nat) (h : Oct c) : (digitOf 8 c).isSome = true := by
  unfold digitOf
  have h1 : 48 ≤ c ∧ c ≤ 57 := ⟨h.1, Nat.le_trans h.2 (by decide)⟩
  have h2 : c - 48 < 8 := Nat.sub_lt_left_of_lt_add h.1 (Nat.lt_succ_of_le h.2)
  simp [h1, h2]

theorem valB_zero (base : Nat) (hb : 0 < base) (ds : List Nat) : valB base (48 :: ds) 0 = valB base ds 0 := by
  have : digitOf base 48 = some 0 := by unfold digitOf; simp [hb]
  simp [valB, this]

theorem strto_octal (ds k : List Nat) (hds : ∀ c ∈ ds, Oct c) (hk : NoDig 8 k) :
    strto (48 :: (ds ++ k)) 8 = { neg := false, mag := valB 8 ds 0, used := 1 + ds.length } := by
  have h := strto_run 8 (48 :: (ds ++ k)) _ (48 :: ds) k false 0 0 not_space_48 (splitSign_of_ne _ (by decide) (by decide))
    (by unfold splitPrefix; split <;> rfl)
    (fun c hc => (List.mem_cons.mp hc).elim (fun e => e ▸ digitOf8 48 ⟨Nat.le_refl _, by decide⟩) (fun hc => digitOf8 c (hds c hc)))
    (List.cons_ne_nil _ _) hk
  rw [valB_zero 8 (by decide)] at h
  exact h.trans (by rw [Nat.zero_add, List.length_cons, Nat.add_comm])

theorem detectBase_octal (d : Nat) (r : List Nat) (hd : Oct d) : detectBase (48 :: d :: r) = 8 :=
  have hx : ∀ x, 55 < x → d ≠ x := fun x hx e => Nat.not_le.mpr hx (e ▸ hd.2)
  (detectBase_zero d r).trans ((if_neg fun h => h.elim (hx 120 (by decide)) (hx 88 (by decide))).trans (if_pos hd))

/-- **octal texts, signed types** (`0` followed by octal digits) -/
theorem C16_octal_signed (ds k : List Nat) (lo hi : Int) (hds : ∀ c ∈ ds, Oct c) (hne : ds ≠ []) (hk : NoDig 8 k)
    (hlo : LLMIN ≤ lo) (hhi : hi ≤ LLMAX) :
    parseSigned (48 :: (ds ++ k)) lo hi =
      (if lo ≤ (valB 8 ds 0 : Int) ∧ (valB 8 ds 0 : Int) ≤ hi then some ((valB 8 ds 0 : Int), 1 + ds.length) else none) := by
  have hs := strto_octal ds k hds hk
  obtain ⟨d, r, rfl⟩ := List.exists_cons_of_ne_nil hne
  exact parseSigned_strto 48 _ lo hi hlo hhi (by decide) (detectBase_octal d (r ++ k) (hds d List.mem_cons_self)) _ hs
    (Nat.ne_of_gt (Nat.add_pos_left (Nat.succ_pos 0) _))

/-- **octal texts, unsigned types** -/
theorem C16_octal_unsigned (ds k : List Nat) (uMax : Nat) (hds : ∀ c ∈ ds, Oct c) (hne : ds ≠ []) (hk : NoDig 8 k) (hmax : uMax ≤ ULLMAX) :
    parseUnsigned (48 :: (ds ++ k)) uMax = (if valB 8 ds 0 ≤ uMax then some (valB 8 ds 0, 1 + ds.length) else none) := by
  have hs := strto_octal ds k hds hk
  obtain ⟨d, r, rfl⟩ := List.exists_cons_of_ne_nil hne
  exact parseUnsigned_strto 48 _ uMax hmax (by decide) (by decide) (by decide) (detectBase_octal d (r ++ k) (hds d List.mem_cons_self))
    _ _ hs (Nat.ne_of_gt (Nat.add_pos_left (Nat.succ_pos 0) _))

theorem C16_keyword_imax (k : List Nat) (lo hi : Int) (h : hi ≠ 0) : parseSigned ([105, 109, 97, 120] ++ k) lo hi = some (hi, 4) := by
  unfold parseSigned
  have : (hi != 0) = true := by simpa using h
  simp [startsWith, List.isPrefixOf, this]

theorem C16_keyword_imin (k : List Nat) (lo hi : Int) (h : lo ≠ 0) : parseSigned ([105, 109, 105, 110] ++ k) lo hi = some (lo, 4) := by
  unfold parseSigned
  have : (lo != 0) = true := by simpa using h
  simp [startsWith, List.isPrefixOf, this]

theorem C16_keyword_umax (k : List Nat) (uMax : Nat) : parseUnsigned ([117, 109, 97, 120] ++ k) uMax = some (uMax, 4) := rfl

theorem C16_keyword_minus_one (k : List Nat) (uMax : Nat) : parseUnsigned ([45, 49] ++ k) uMax = some (uMax, 2) := rfl

/-- a negative number other than `-1` is never an unsigned value -/
theorem C16_unsigned_rejects_negative (c : Nat) (r : List Nat) (uMax : Nat) (h : c ≠ 49) : parseUnsigned (45 :: c :: r) uMax = none := by
  unfold parseUnsigned
  have : ((45 : Nat) == 45 && (c :: r).head? != some 49) = true := by simp [h]
  simp only [this, ↓reduceIte]

example : parseSigned ([48, 120, 55, 70, 70, 70, 70, 70, 70, 70, 44]) (-2147483648) 2147483647 = some (2147483647, 10) := by decide +kernel
example : parseSigned ([48, 120, 56, 48, 48, 48, 48, 48, 48, 48]) (-2147483648) 2147483647 = none := by decide +kernel
example : parseUnsigned ([48, 55, 55, 55]) 255 = none := by decide +kernel
example : parseUnsigned ([48, 51, 55, 55]) 255 = some (255, 4) := by decide +kernel

end PotasscoVerif.C16
