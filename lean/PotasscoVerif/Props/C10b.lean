/-
  C10 (continued) — whole statements.
  Atom lists, rules with normal bodies (facts, integrity constraints, disjunctions, choices), `#assume`, `#project`,
  `#external`, `#edge`: printed with ANY filler (blanks, tabs, line breaks) at every optional position and ANY spelling of
  every atom, the reader model delivers exactly the statement written, and the statement loop goes on behind it.
  `directive` is a chain of keyword tests; that the right one is taken is proved once, over the keyword table.
-/
import PotasscoVerif.Props.C10
namespace PotasscoVerif.C10
open PotasscoVerif PotasscoVerif.CharStream PotasscoVerif.TextIn PotasscoVerif.Decimal PotasscoVerif.AspifOut
open PotasscoVerif.BufferedStream (isDigit isWs I64MAX)

structure AtomItem where
  n       : Nat
  sp      : Spelling
  wsAfter : List Nat
deriving Repr, DecidableEq

def AtomItem.lit (i : AtomItem) : LitItem := { neg := false, n := i.n, sp := i.sp, wsNot := [], wsAfter := i.wsAfter }
def AtomItem.ok (i : AtomItem) : Prop := i.sp.ok i.n ∧ Filler i.wsAfter
def AtomItem.text (i : AtomItem) : List Nat := i.sp.text i.n ++ i.wsAfter

theorem AtomItem.lit_text (i : AtomItem) : i.lit.text = i.text := rfl
theorem AtomItem.lit_ok (i : AtomItem) (h : i.ok) : i.lit.ok := ⟨h.1, Filler.nil, h.2⟩
theorem AtomItem.lit_val (i : AtomItem) : i.lit.val = (i.n : Int) := rfl

/-- the separators of atom lists: `;`, `|`, `,` -/
def IsSep (s : Nat) : Prop := s = 59 ∨ s = 124 ∨ s = 44

/-- atoms, each followed by the separator printed after it (ignored for the last one) and the filler behind the separator -/
def atomsText : List (AtomItem × Nat × List Nat) → List Nat
  | [] => []
  | [(i, _, _)] => i.text
  | (i, s, w) :: rest => i.text ++ (s :: (w ++ atomsText rest))

theorem atomItem_head (i : AtomItem) (hok : i.ok) (t : List Nat) : ∃ c r, i.text ++ t = c :: r ∧ isLower c = true := by
  unfold AtomItem.text
  rw [List.append_assoc]
  exact spelling_head i.n i.sp hok.1 _

theorem atomsText_head (items : List (AtomItem × Nat × List Nat)) (hok : ∀ p ∈ items, p.1.ok) (t : List Nat) :
    items = [] ∨ ∃ c r, atomsText items ++ t = c :: r ∧ isLower c = true := by
  cases items with
  | nil => exact Or.inl rfl
  | cons p rest =>
    have hp := hok p (List.mem_cons_self ..)
    cases rest with
    | nil => exact Or.inr (atomItem_head p.1 hp t)
    | cons q rest' => simp only [atomsText, List.append_assoc]; exact Or.inr (atomItem_head p.1 hp _)

theorem atomsText_nws (items : List (AtomItem × Nat × List Nat)) (hok : ∀ p ∈ items, p.1.ok) {k : List Nat} (hk : NWS k) :
    NWS (atomsText items ++ k) := by
  rcases atomsText_head items hok k with rfl | h
  · exact hk
  · exact lower_nws h

def EndsList (seps : List Nat) (k : List Nat) : Prop := Sep k ∧ ∃ c r, k = c :: r ∧ seps.contains c = false ∧ c ≠ 0

theorem IsSep.sep {s : Nat} (h : IsSep s) (t : List Nat) : Sep (s :: t) :=
  Sep.cons (by rcases h with h | h | h <;> subst h <;> decide) t

theorem IsSep.plain {s : Nat} (h : IsSep s) : s ≠ 0 ∧ s ≠ 13 ∧ s ≠ 10 := by
  rcases h with h | h | h <;> subst h <;> decide

theorem atomsLoop_spec (seps : List Nat) (items : List (AtomItem × Nat × List Nat)) (hne : items ≠ [])
    (hok : ∀ p ∈ items, p.1.ok ∧ IsSep p.2.1 ∧ seps.contains p.2.1 = true ∧ Filler p.2.2)
    (k : List Nat) (hk : EndsList seps k) (f : Nat) (a : AS) (hf : a.rest.length < f) (acc : List Nat)
    (hr : a.rest = atomsText items ++ k) :
    ∃ a', atomsLoop seps f a acc = .ok (acc ++ items.map (fun p => p.1.n), a') ∧ a'.rest = k := by
  induction items generalizing f a acc with
  | nil => exact absurd rfl hne
  | cons p rest ih =>
    obtain ⟨i, s, w⟩ := p
    obtain ⟨⟨hi, hs, hsc, hw⟩, hok'⟩ := List.forall_mem_cons.1 hok
    have hpos : ¬ ((i.n : Int) ≤ 0) := by have : 1 ≤ i.n := Spelling.ok_pos hi.1; omega
    cases f with
    | zero => omega
    | succ f =>
      cases rest with
      | nil =>
        obtain ⟨a1, h1, hr1⟩ := C10_lit a i.lit k (i.lit_ok hi) (by rw [i.lit_text]; exact hr) hk.1
        obtain ⟨c, r, ek, hc1, hc2⟩ := hk.2
        have hc0 : (c == 0) = false := beq_eq_false_iff_ne.2 hc2
        refine ⟨a1, ?_, hr1⟩
        simp only [atomsLoop, h1, i.lit_val, hpos, ↓reduceIte, peek_cons (hr1.trans ek), hc1, hc0, Bool.or_self, Bool.false_eq_true,
          Int.toNat_natCast, List.map_cons, List.map_nil]
      | cons q rest' =>
        simp only [atomsText, List.append_assoc, List.cons_append] at hr
        obtain ⟨a1, h1, hr1⟩ := C10_lit a i.lit _ (i.lit_ok hi) (by rw [i.lit_text]; exact hr) (hs.sep _)
        have hg := AS.get_plain hr1 hs.plain.1 hs.plain.2.1 hs.plain.2.2
        have hsb : (s != 0) = true := by simpa using hs.plain.1
        have hsk : (AS.skipWs { rest := w ++ (atomsText (q :: rest') ++ k), line := a1.line, canUnget := true }).rest = atomsText (q :: rest') ++ k :=
          skipWs_spec _ w _ rfl hw (atomsText_nws _ (fun p hp => (hok' p hp).1) hk.1.nws)
        obtain ⟨a3, h3, hr3⟩ := ih (by simp) hok' f _
          (by rw [hr] at hf; rw [hsk]; simp only [List.length_append, List.length_cons] at hf ⊢; omega) (acc ++ [i.n]) hsk
        refine ⟨a3, ?_, hr3⟩
        simp only [atomsLoop, h1, i.lit_val, hpos, ↓reduceIte, peek_cons hr1, hsc, Bool.true_or, hg, hsb, Int.toNat_natCast, h3,
          List.map_cons, List.append_assoc, List.singleton_append]

/-- **C10 (atom lists)**: atoms in any spelling, separated by any of the list's separators with any filler around them,
    are read as exactly that list; an empty list (the continuation does not start with a letter) is read as empty -/
theorem C10_atoms (seps : List Nat) (a : AS) (items : List (AtomItem × Nat × List Nat))
    (hok : ∀ p ∈ items, p.1.ok ∧ IsSep p.2.1 ∧ seps.contains p.2.1 = true ∧ Filler p.2.2)
    (k : List Nat) (hk : EndsList seps k) (hr : a.rest = atomsText items ++ k) :
    ∃ a', atoms seps a = .ok (items.map (fun p => p.1.n), a') ∧ a'.rest = k := by
  have hs : a.skipWs.rest = atomsText items ++ k := skipWs_nws a hr (atomsText_nws items (fun p hp => (hok p hp).1) hk.1.nws)
  unfold atoms peekWs
  by_cases hne : items = []
  · subst hne
    obtain ⟨c, r, ek, _, _⟩ := hk.2
    have hl : isLower c = false := (hk.1 c r ek).2.2.1
    simp only [peek_cons (hs.trans ek), hl, Bool.false_eq_true, ↓reduceIte, List.map_nil]
    exact ⟨_, rfl, hs⟩
  · obtain ⟨c, r, e, hc⟩ := (atomsText_head items (fun p hp => (hok p hp).1) k).resolve_left hne
    simp only [peek_cons (hs.trans e), hc, ↓reduceIte]
    exact atomsLoop_spec seps items hne hok k hk _ a.skipWs (Nat.lt_succ_self _) [] hs

inductive HeadS where
  | disj (items : List (AtomItem × Nat × List Nat))
  | choice (wsOpen : List Nat) (items : List (AtomItem × Nat × List Nat)) (wsClose : List Nat)

structure BodyS where
  wsArrow : List Nat
  items   : List (LitItem × List Nat)

structure RuleS where
  head  : HeadS
  body  : Option BodyS
  wsDot : List Nat

def HeadS.text : HeadS → List Nat
  | .disj items => atomsText items
  | .choice w1 items w2 => 123 :: (w1 ++ (atomsText items ++ (125 :: w2)))
def HeadS.ht : HeadS → Nat
  | .disj _ => 0
  | .choice _ _ _ => 1
def HeadS.atoms : HeadS → List Nat
  | .disj items => items.map (fun p => p.1.n)
  | .choice _ items _ => items.map (fun p => p.1.n)
def HeadS.ok : HeadS → Prop
  | .disj items => ∀ p ∈ items, p.1.ok ∧ IsSep p.2.1 ∧ [59, 124].contains p.2.1 = true ∧ Filler p.2.2
  | .choice w1 items w2 => Filler w1 ∧ Filler w2 ∧ ∀ p ∈ items, p.1.ok ∧ IsSep p.2.1 ∧ [59, 44].contains p.2.1 = true ∧ Filler p.2.2

def BodyS.text (b : BodyS) : List Nat := 58 :: 45 :: (b.wsArrow ++ litsText b.items)
def BodyS.ok (b : BodyS) : Prop := Filler b.wsArrow ∧ ∀ p ∈ b.items, p.1.ok ∧ Filler p.2

def bodyText : Option BodyS → List Nat
  | some b => b.text
  | none => []
def bodyVals : Option BodyS → List Int
  | some b => b.items.map (fun p => p.1.val)
  | none => []
def bodyOk : Option BodyS → Prop
  | some b => b.ok
  | none => True

def RuleS.text (r : RuleS) : List Nat := r.head.text ++ (bodyText r.body ++ (46 :: r.wsDot))
def RuleS.call (r : RuleS) : Call := .rule r.head.ht r.head.atoms (bodyVals r.body)
/-- a statement that is just `.` is not a rule: a disjunctive head without atoms needs a body -/
def RuleS.ok (r : RuleS) : Prop :=
  r.head.ok ∧ Filler r.wsDot ∧ bodyOk r.body ∧ (match r.head, r.body with | .disj [], none => False | _, _ => True)

theorem ruleHead_spec (a : AS) (h : HeadS) (k : List Nat) (hh : h.ok) (hk : ∃ c t, k = c :: t ∧ (c = 58 ∨ c = 46)) (hr : a.rest = h.text ++ k) :
    ∃ a', ruleHead ((h.text ++ k).headD 0) a = .ok ((h.ht, h.atoms), a') ∧ a'.rest = k := by
  obtain ⟨c0, t0, rfl, hc0⟩ := hk
  have hsepk : Sep (c0 :: t0) := Sep.cons (by rcases hc0 with h | h <;> subst h <;> decide) t0
  cases h with
  | disj items =>
    have hfirst : ((atomsText items ++ c0 :: t0).headD 0 == 123) = false := by
      rcases atomsText_head items (fun p hp => (hh p hp).1) (c0 :: t0) with rfl | ⟨c, t, e, hc⟩
      · rcases hc0 with h | h <;> subst h <;> rfl
      · rw [e]; exact beq_eq_false_iff_ne.2 (by have := isLower_iff.1 hc; show c ≠ 123; omega)
    have hend : EndsList [59, 124] (c0 :: t0) := ⟨hsepk, c0, t0, rfl, by rcases hc0 with h | h <;> subst h <;> decide⟩
    obtain ⟨a1, h1, hr1⟩ := C10_atoms [59, 124] a items hh _ hend hr
    exact ⟨a1, by simp only [HeadS.text, ruleHead, hfirst, Bool.false_eq_true, ↓reduceIte, bind, Except.bind, h1, pure, Except.pure,
      HeadS.ht, HeadS.atoms], hr1⟩
  | choice w1 items w2 =>
    obtain ⟨hw1, hw2, hit⟩ := hh
    simp only [HeadS.text, List.cons_append, List.append_assoc] at hr ⊢
    obtain ⟨a1, h1, hr1⟩ := C10_tok a [123] w1 _ true hr hw1 (atomsText_nws items (fun p hp => (hit p hp).1) (nws_cons (by decide) _))
    obtain ⟨a2, h2, hr2⟩ := C10_atoms [59, 44] a1 items hit _ ⟨Sep.cons (by decide) _, 125, _, rfl, by decide⟩ hr1
    obtain ⟨a3, h3, hr3⟩ := C10_tok a2 [125] w2 _ true hr2 hw2 hsepk.nws
    exact ⟨a3, by simp only [ruleHead, List.headD_cons, beq_self_eq_true, ↓reduceIte, bind, Except.bind, h1, h2, h3, pure, Except.pure,
      HeadS.ht, HeadS.atoms], hr3⟩

theorem ruleBody_spec (ht : Nat) (hd : List Nat) (a : AS) (body : Option BodyS) (wsDot k : List Nat)
    (hb : bodyOk body) (hwd : Filler wsDot) (hk : NWS k) (hr : a.rest = bodyText body ++ (46 :: wsDot) ++ k) :
    ∃ a', ruleBody ht hd a = .ok (.rule ht hd (bodyVals body), a') ∧ a'.rest = k := by
  cases body with
  | none =>
    obtain ⟨a1, h1, hr1⟩ := tok_absent a [58, 45] hr rfl
    obtain ⟨a2, h2, hr2⟩ := C10_tok a1 [46] wsDot k true hr1 hwd hk
    exact ⟨a2, by simp only [ruleBody, bind, Except.bind, h1, Bool.false_eq_true, ↓reduceIte, h2, pure, Except.pure, bodyVals], hr2⟩
  | some b =>
    obtain ⟨hwa, hit⟩ := hb
    simp only [bodyText, BodyS.text, List.cons_append, List.append_assoc] at hr
    have hnext : NWS (litsText b.items ++ (46 :: (wsDot ++ k))) := litsText_nws b.items hit (nws_cons (by decide) _)
    obtain ⟨a1, h1, hr1⟩ := C10_tok a [58, 45] b.wsArrow _ false hr hwa hnext
    -- the first character behind `:-` decides between a normal body and an aggregate
    have hs : a1.skipWs.rest = litsText b.items ++ (46 :: (wsDot ++ k)) := skipWs_nws a1 hr1 hnext
    have hcond : (!isDigit (peekWs a1).1 && (peekWs a1).1 != 45) = true := by
      show (!isDigit a1.skipWs.peek && a1.skipWs.peek != 45) = true
      unfold AS.peek; rw [hs]
      rcases litsText_head b.items hit (46 :: (wsDot ++ k)) with hne | ⟨c, t, e, hc⟩
      · rw [hne]; rfl
      · have := isLower_iff.1 hc
        rw [e, List.headD_cons, isDigit_false (by omega), Bool.not_false, Bool.true_and, bne_iff_ne]; omega
    obtain ⟨a2, h2, hr2⟩ := lits_spec a1.skipWs b.items hit (46 :: (wsDot ++ k)) (Sep.cons (by decide) _) rfl hs
    obtain ⟨a3, h3, hr3⟩ := C10_tok a2 [46] wsDot k true hr2 hwd hk
    have hp2 : (peekWs a1).2 = a1.skipWs := rfl
    exact ⟨a3, by simp only [ruleBody, bind, Except.bind, h1, ↓reduceIte, hcond, hp2, h2, h3, pure, Except.pure, bodyVals], hr3⟩

/-- **C10 (rules)**: a fact, integrity constraint, disjunctive or choice rule with a normal body, in any layout and spelling,
    is read as exactly that rule (`rule` is handed the character the statement starts with, as `parseStatements` does) -/
theorem C10_rule (a : AS) (r : RuleS) (k : List Nat) (hok : r.ok) (hk : NWS k) (hr : a.rest = r.text ++ k) :
    ∃ a', rule ((r.text ++ k).headD 0) a = .ok (r.call, a') ∧ a'.rest = k := by
  obtain ⟨hh, hwd, hb, _⟩ := hok
  rw [RuleS.text, List.append_assoc] at hr ⊢
  obtain ⟨a1, h1, hr1⟩ := ruleHead_spec a r.head _ hh (by cases r.body; exact ⟨46, _, rfl, Or.inr rfl⟩; exact ⟨58, _, rfl, Or.inl rfl⟩) hr
  obtain ⟨a2, h2, hr2⟩ := ruleBody_spec r.head.ht r.head.atoms a1 r.body r.wsDot k hb hwd hk hr1
  exact ⟨a2, by simp only [rule, h1, h2, RuleS.call], hr2⟩

def kwMinimize : List Nat := [35, 109, 105, 110, 105, 109, 105, 122, 101]
def kwProject : List Nat := [35, 112, 114, 111, 106, 101, 99, 116]
def kwOutput : List Nat := [35, 111, 117, 116, 112, 117, 116]
def kwExternal : List Nat := [35, 101, 120, 116, 101, 114, 110, 97, 108]
def kwAssume : List Nat := [35, 97, 115, 115, 117, 109, 101]
def kwHeuristic : List Nat := [35, 104, 101, 117, 114, 105, 115, 116, 105, 99]
def kwEdge : List Nat := [35, 101, 100, 103, 101]
def kwStep : List Nat := [35, 115, 116, 101, 112]
def kwIncremental : List Nat := [35, 105, 110, 99, 114, 101, 109, 101, 110, 116, 97, 108]

theorem alt_absent (kw : List Nat) (p els : AspifIn.P Stmt) (a : AS) {t : List Nat} (hr : a.rest = t) (h : kw.isPrefixOf t = false) :
    ∃ a', alt kw p els a = els a' ∧ a'.rest = t := by
  obtain ⟨a', h1, hr'⟩ := tok_absent a kw hr h
  exact ⟨a', by unfold alt; rw [h1], hr'⟩

theorem alt_present (kw : List Nat) (p els : AspifIn.P Stmt) (a : AS) (ws k : List Nat) (hr : a.rest = kw ++ (ws ++ k)) (hws : Filler ws) (hk : NWS k) :
    ∃ a', alt kw p els a = p a' ∧ a'.rest = k := by
  obtain ⟨a', h1, hr'⟩ := C10_tok a kw ws k false hr hws hk
  exact ⟨a', by unfold alt; rw [h1], hr'⟩

/-- two words differ at a position that both have: neither is a prefix of a text that starts with the other -/
def clash : List Nat → List Nat → Bool
  | x :: u, y :: v => x != y || clash u v
  | _, _ => false

theorem clash_not_prefix {u v : List Nat} (t : List Nat) (h : clash u v = true) : u.isPrefixOf (v ++ t) = false := by
  induction u generalizing v with
  | nil => simp [clash] at h
  | cons x u ih =>
    cases v with
    | nil => simp [clash] at h
    | cons y v =>
      simp only [clash, Bool.or_eq_true, bne_iff_ne, ne_eq] at h
      simp only [List.cons_append, List.isPrefixOf, Bool.and_eq_false_imp, beq_iff_eq]
      intro e; exact ih (h.resolve_left (fun hne => hne e))

def altList : List (List Nat × AspifIn.P Stmt) → AspifIn.P Stmt
  | [] => fun a => .error a.line
  | e :: r => alt e.1 e.2 (altList r)

theorem altList_spec (tbl : List (List Nat × AspifIn.P Stmt)) (hpw : tbl.Pairwise (fun e e' => clash e.1 e'.1 = true))
    {i : Nat} {kw : List Nat} {p : AspifIn.P Stmt} (hi : tbl[i]? = some (kw, p))
    (a : AS) (ws k : List Nat) (hr : a.rest = kw ++ (ws ++ k)) (hws : Filler ws) (hk : NWS k) :
    ∃ a', altList tbl a = p a' ∧ a'.rest = k := by
  induction tbl generalizing i a with
  | nil => simp at hi
  | cons e r ih =>
    rw [List.pairwise_cons] at hpw
    cases i with
    | zero =>
      simp only [List.getElem?_cons_zero, Option.some.injEq] at hi; subst hi
      exact alt_present kw p _ a ws k hr hws hk
    | succ i =>
      rw [List.getElem?_cons_succ] at hi
      obtain ⟨a1, e1, r1⟩ := alt_absent e.1 e.2 (altList r) a hr (clash_not_prefix _ (hpw.1 _ (List.mem_of_getElem? hi)))
      obtain ⟨a2, e2, r2⟩ := ih hpw.2 hi a1 r1
      exact ⟨a2, e1.trans e2, r2⟩

def dirTable (inc : Bool) : List (List Nat × AspifIn.P Stmt) :=
  [(kwMinimize, dMinimize), (kwProject, dProject), (kwOutput, dOutput), (kwExternal, dExternal), (kwAssume, dAssume),
   (kwHeuristic, dHeuristic), (kwEdge, dEdge), (kwStep, dStep inc), (kwIncremental, dIncremental)]

/-- `directive inc` unfolds to `altList (dirTable inc)` -/
theorem directive_spec (inc : Bool) {i : Nat} {kw : List Nat} {p : AspifIn.P Stmt} (hi : (dirTable inc)[i]? = some (kw, p))
    (a : AS) (ws k : List Nat) (hr : a.rest = kw ++ (ws ++ k)) (hws : Filler ws) (hk : NWS k) :
    ∃ a', directive inc a = p a' ∧ a'.rest = k :=
  altList_spec (dirTable inc) (by cases inc <;> decide) hi a ws k hr hws hk

theorem stmtLoop_directive (inc : Bool) (f : Nat) (a : AS) (acc : List Call) (ws t : List Nat) (s : Stmt) (a' : AS) (hws : Filler ws)
    (hr : a.rest = ws ++ (35 :: t)) (h : directive inc a.skipWs = .ok (s, a')) :
    stmtLoop inc (f + 1) a acc = (match s with
      | .call c => stmtLoop inc f a' (acc ++ [c])
      | .nothing => stmtLoop inc f a' acc
      | .step => (acc, .ok a')) := by
  simp only [stmtLoop, peekWs_cons (skipWs_spec a ws _ hr hws (nws_cons (by decide) t)), h]
  cases s <;> rfl

theorem stmtLoop_kw (inc : Bool) (f : Nat) (a : AS) (acc : List Call) (ws : List Nat) {i : Nat} {kw : List Nat} {p : AspifIn.P Stmt}
    (hi : (dirTable inc)[i]? = some (kw, p)) {t : List Nat} (hkw : kw = 35 :: t) (ws0 tail k : List Nat) (c : Call) (hws : Filler ws)
    (hw0 : Filler ws0) (hnw : NWS (tail ++ k)) (hr : a.rest = ws ++ (kw ++ (ws0 ++ tail) ++ k))
    (hp : ∀ a1 : AS, a1.rest = tail ++ k → ∃ a', p a1 = .ok (.call c, a') ∧ a'.rest = k) :
    ∃ a', stmtLoop inc (f + 1) a acc = stmtLoop inc f a' (acc ++ [c]) ∧ a'.rest = k := by
  subst hkw
  have hs : a.skipWs.rest = (35 :: t) ++ (ws0 ++ (tail ++ k)) :=
    skipWs_spec a ws _ (by rw [hr]; simp only [List.append_assoc]) hws (nws_cons (by decide) _)
  obtain ⟨a1, e1, r1⟩ := directive_spec inc hi a.skipWs ws0 _ hs hw0 hnw
  obtain ⟨a2, e2, r2⟩ := hp a1 r1
  exact ⟨a2, stmtLoop_directive inc f a acc ws _ _ a2 hws hr (e1.trans e2), r2⟩

/-- a character a rule starts with: a letter (an atom), `{`, or the `:` of `:-` -/
def RuleStart (c : Nat) : Prop := isLower c = true ∨ c = 123 ∨ c = 58

theorem start_facts {c : Nat} (hc : RuleStart c ∨ c = 35) : isWs c = false ∧ c ≠ 0 ∧ c ≠ 46 ∧ c ≠ 37 ∧ c ≠ 91 := by
  rcases hc with (h | h | h) | h
  · have := isLower_iff.1 h; exact ⟨isWs_false (by omega), by omega, by omega, by omega, by omega⟩
  all_goals subst h; decide

theorem RuleStart.ne_hash {c : Nat} (hc : RuleStart c) : c ≠ 35 := by
  rintro rfl; rcases hc with h | h | h <;> exact absurd h (by decide)

theorem stmtLoop_rule (inc : Bool) (f : Nat) (a : AS) (acc : List Call) (ws txt k : List Nat) (call : Call) (hws : Filler ws)
    (hr : a.rest = ws ++ (txt ++ k)) (hc : ∃ c t, txt ++ k = c :: t ∧ RuleStart c)
    (hp : ∀ a1 : AS, a1.rest = txt ++ k → ∃ a', rule ((txt ++ k).headD 0) a1 = .ok (call, a') ∧ a'.rest = k) :
    ∃ a', stmtLoop inc (f + 1) a acc = stmtLoop inc f a' (acc ++ [call]) ∧ a'.rest = k := by
  obtain ⟨c, t, e, hc⟩ := hc
  rw [e] at hr hp
  have hf := start_facts (Or.inl hc)
  have hs : a.skipWs.rest = c :: t := skipWs_spec a ws _ hr hws (nws_cons hf.1 t)
  obtain ⟨a', h, hr'⟩ : ∃ a', rule c a.skipWs = .ok (call, a') ∧ a'.rest = k := hp a.skipWs hs
  refine ⟨a', ?_, hr'⟩
  simp only [stmtLoop, peekWs_cons hs, beq_eq_false_iff_ne.2 hf.2.1, beq_eq_false_iff_ne.2 hf.2.2.1, beq_eq_false_iff_ne.2 hc.ne_hash,
    beq_eq_false_iff_ne.2 hf.2.2.2.1, Bool.false_eq_true, ↓reduceIte, h]

structure Braced (α : Type) where
  wsOpen  : List Nat
  items   : List α
  wsClose : List Nat

/-- `#assume{l1, …}.` / `#assume.` -/
structure AssumeS where
  ws0   : List Nat
  br    : Option (Braced (LitItem × List Nat))
  wsDot : List Nat

def AssumeS.inner : Option (Braced (LitItem × List Nat)) → List Nat
  | some b => 123 :: (b.wsOpen ++ (litsText b.items ++ (125 :: b.wsClose)))
  | none => []
def AssumeS.text (s : AssumeS) : List Nat := kwAssume ++ (s.ws0 ++ (AssumeS.inner s.br ++ (46 :: s.wsDot)))
def AssumeS.vals : Option (Braced (LitItem × List Nat)) → List Int
  | some b => b.items.map (fun p => p.1.val)
  | none => []
def AssumeS.okB : Option (Braced (LitItem × List Nat)) → Prop
  | some b => Filler b.wsOpen ∧ Filler b.wsClose ∧ ∀ p ∈ b.items, p.1.ok ∧ Filler p.2
  | none => True
def AssumeS.ok (s : AssumeS) : Prop := Filler s.ws0 ∧ Filler s.wsDot ∧ AssumeS.okB s.br

theorem dAssume_spec (a : AS) (br : Option (Braced (LitItem × List Nat))) (wsDot k : List Nat) (hb : AssumeS.okB br) (hwd : Filler wsDot) (hk : NWS k)
    (hr : a.rest = AssumeS.inner br ++ (46 :: wsDot) ++ k) :
    ∃ a', dAssume a = .ok (.call (.assume (AssumeS.vals br)), a') ∧ a'.rest = k := by
  cases br with
  | none =>
    obtain ⟨a1, h1, hr1⟩ := tok_absent a [123] hr rfl
    obtain ⟨a2, h2, hr2⟩ := C10_tok a1 [46] wsDot k true hr1 hwd hk
    exact ⟨a2, by simp only [dAssume, bind, Except.bind, h1, Bool.false_eq_true, ↓reduceIte, h2, pure, Except.pure, AssumeS.vals], hr2⟩
  | some b =>
    obtain ⟨hw1, hw2, hit⟩ := hb
    simp only [AssumeS.inner, List.cons_append, List.append_assoc] at hr
    obtain ⟨a1, h1, hr1⟩ := C10_tok a [123] b.wsOpen _ false hr hw1 (litsText_nws b.items hit (nws_cons (by decide) _))
    obtain ⟨a2, h2, hr2⟩ := lits_spec a1 b.items hit _ (Sep.cons (by decide) _) rfl hr1
    obtain ⟨a3, h3, hr3⟩ := C10_tok a2 [125] b.wsClose (46 :: (wsDot ++ k)) true hr2 hw2 (nws_cons (by decide) _)
    obtain ⟨a4, h4, hr4⟩ := C10_tok a3 [46] wsDot k true hr3 hwd hk
    exact ⟨a4, by simp only [dAssume, bind, Except.bind, h1, ↓reduceIte, h2, h3, h4, pure, Except.pure, AssumeS.vals], hr4⟩

/-- `#project{a1, …}.` / `#project.` -/
structure ProjectS where
  ws0   : List Nat
  br    : Option (Braced (AtomItem × Nat × List Nat))
  wsDot : List Nat

def ProjectS.inner : Option (Braced (AtomItem × Nat × List Nat)) → List Nat
  | some b => 123 :: (b.wsOpen ++ (atomsText b.items ++ (125 :: b.wsClose)))
  | none => []
def ProjectS.text (s : ProjectS) : List Nat := kwProject ++ (s.ws0 ++ (ProjectS.inner s.br ++ (46 :: s.wsDot)))
def ProjectS.vals : Option (Braced (AtomItem × Nat × List Nat)) → List Nat
  | some b => b.items.map (fun p => p.1.n)
  | none => []
def ProjectS.okB : Option (Braced (AtomItem × Nat × List Nat)) → Prop
  | some b => Filler b.wsOpen ∧ Filler b.wsClose ∧ ∀ p ∈ b.items, p.1.ok ∧ IsSep p.2.1 ∧ [44].contains p.2.1 = true ∧ Filler p.2.2
  | none => True
def ProjectS.ok (s : ProjectS) : Prop := Filler s.ws0 ∧ Filler s.wsDot ∧ ProjectS.okB s.br

theorem dProject_spec (a : AS) (br : Option (Braced (AtomItem × Nat × List Nat))) (wsDot k : List Nat) (hb : ProjectS.okB br) (hwd : Filler wsDot) (hk : NWS k)
    (hr : a.rest = ProjectS.inner br ++ (46 :: wsDot) ++ k) :
    ∃ a', dProject a = .ok (.call (.project (ProjectS.vals br)), a') ∧ a'.rest = k := by
  cases br with
  | none =>
    obtain ⟨a1, h1, hr1⟩ := tok_absent a [123] hr rfl
    obtain ⟨a2, h2, hr2⟩ := C10_tok a1 [46] wsDot k true hr1 hwd hk
    exact ⟨a2, by simp only [dProject, bind, Except.bind, h1, Bool.false_eq_true, ↓reduceIte, h2, pure, Except.pure, ProjectS.vals], hr2⟩
  | some b =>
    obtain ⟨hw1, hw2, hit⟩ := hb
    simp only [ProjectS.inner, List.cons_append, List.append_assoc] at hr
    obtain ⟨a1, h1, hr1⟩ := C10_tok a [123] b.wsOpen _ false hr hw1 (atomsText_nws b.items (fun p hp => (hit p hp).1) (nws_cons (by decide) _))
    obtain ⟨a2, h2, hr2⟩ := C10_atoms [44] a1 b.items hit _ ⟨Sep.cons (by decide) _, 125, _, rfl, by decide⟩ hr1
    obtain ⟨a3, h3, hr3⟩ := C10_tok a2 [125] b.wsClose (46 :: (wsDot ++ k)) true hr2 hw2 (nws_cons (by decide) _)
    obtain ⟨a4, h4, hr4⟩ := C10_tok a3 [46] wsDot k true hr3 hwd hk
    exact ⟨a4, by simp only [dProject, bind, Except.bind, h1, ↓reduceIte, h2, h3, h4, pure, Except.pure, ProjectS.vals], hr4⟩

structure ExtVal where
  wsOpen : List Nat
  v      : Nat           -- 0 free, 1 true, 2 false, 3 release
  wsVal  : List Nat
  wsClose : List Nat

/-- `#external a.` / `#external a. [value]` -/
structure ExternalS where
  ws0   : List Nat
  atom  : AtomItem
  wsDot : List Nat
  val   : Option ExtVal

def valText (v : Nat) : List Nat :=
  if v = 1 then [116, 114, 117, 101] else if v = 0 then [102, 114, 101, 101] else if v = 3 then [114, 101, 108, 101, 97, 115, 101] else [102, 97, 108, 115, 101]
def ExternalS.valT : Option ExtVal → List Nat
  | some e => 91 :: (e.wsOpen ++ (valText e.v ++ (e.wsVal ++ (93 :: e.wsClose))))
  | none => []
def ExternalS.text (s : ExternalS) : List Nat := kwExternal ++ (s.ws0 ++ (s.atom.text ++ (46 :: (s.wsDot ++ ExternalS.valT s.val))))
def ExternalS.value : Option ExtVal → Nat
  | some e => e.v
  | none => 2
def ExternalS.okV : Option ExtVal → Prop
  | some e => Filler e.wsOpen ∧ Filler e.wsVal ∧ Filler e.wsClose ∧ e.v ≤ 3
  | none => True
def ExternalS.ok (s : ExternalS) : Prop := Filler s.ws0 ∧ s.atom.ok ∧ Filler s.wsDot ∧ ExternalS.okV s.val

theorem valText_nws (v : Nat) (t : List Nat) : NWS (valText v ++ t) := by
  unfold valText
  by_cases h1 : v = 1
  · rw [if_pos h1]; exact nws_cons (by decide) _
  by_cases h0 : v = 0
  · rw [if_neg h1, if_pos h0]; exact nws_cons (by decide) _
  by_cases h3 : v = 3
  · rw [if_neg h1, if_neg h0, if_pos h3]; exact nws_cons (by decide) _
  · rw [if_neg h1, if_neg h0, if_neg h3]; exact nws_cons (by decide) _

theorem extValue_spec (a : AS) (v : Nat) (hv : v ≤ 3) (ws k : List Nat) (hws : Filler ws) (hk : NWS k) (hr : a.rest = valText v ++ (ws ++ k)) :
    ∃ a', extValue a = .ok (v, a') ∧ a'.rest = k := by
  have hv4 : v = 0 ∨ v = 1 ∨ v = 2 ∨ v = 3 := by omega
  rcases hv4 with rfl | rfl | rfl | rfl
  · obtain ⟨a1, h1, hr1⟩ := tok_absent a [116, 114, 117, 101] hr rfl
    obtain ⟨a2, h2, hr2⟩ := C10_tok a1 [102, 114, 101, 101] ws k false hr1 hws hk
    exact ⟨a2, by simp only [extValue, bind, Except.bind, h1, Bool.false_eq_true, ↓reduceIte, h2, pure, Except.pure], hr2⟩
  · obtain ⟨a1, h1, hr1⟩ := C10_tok a [116, 114, 117, 101] ws k false hr hws hk
    exact ⟨a1, by simp only [extValue, bind, Except.bind, h1, ↓reduceIte, pure, Except.pure], hr1⟩
  · obtain ⟨a1, h1, hr1⟩ := tok_absent a [116, 114, 117, 101] hr rfl
    obtain ⟨a2, h2, hr2⟩ := tok_absent a1 [102, 114, 101, 101] hr1 rfl
    obtain ⟨a3, h3, hr3⟩ := tok_absent a2 [114, 101, 108, 101, 97, 115, 101] hr2 rfl
    obtain ⟨a4, h4, hr4⟩ := C10_tok a3 [102, 97, 108, 115, 101] ws k true hr3 hws hk
    exact ⟨a4, by simp only [extValue, bind, Except.bind, h1, Bool.false_eq_true, ↓reduceIte, h2, h3, h4, pure, Except.pure], hr4⟩
  · obtain ⟨a1, h1, hr1⟩ := tok_absent a [116, 114, 117, 101] hr rfl
    obtain ⟨a2, h2, hr2⟩ := tok_absent a1 [102, 114, 101, 101] hr1 rfl
    obtain ⟨a3, h3, hr3⟩ := C10_tok a2 [114, 101, 108, 101, 97, 115, 101] ws k false hr2 hws hk
    exact ⟨a3, by simp only [extValue, bind, Except.bind, h1, Bool.false_eq_true, ↓reduceIte, h2, h3, pure, Except.pure], hr3⟩

theorem dExternal_spec (a : AS) (atom : AtomItem) (wsDot : List Nat) (val : Option ExtVal) (k : List Nat)
    (hat : atom.ok) (hwd : Filler wsDot) (hv : ExternalS.okV val) (hk : NWS k) (hk91 : ([91] : List Nat).isPrefixOf k = false)
    (hr : a.rest = atom.text ++ (46 :: (wsDot ++ ExternalS.valT val)) ++ k) :
    ∃ a', dExternal a = .ok (.call (.external atom.n (ExternalS.value val)), a') ∧ a'.rest = k := by
  simp only [AtomItem.text, List.append_assoc, List.cons_append] at hr
  obtain ⟨a1, h1, hr1⟩ := C10_atom_spellings a atom.n atom.sp atom.wsAfter (46 :: (wsDot ++ (ExternalS.valT val ++ k))) hat.1
    hr hat.2 (Sep.cons (by decide) _)
  cases val with
  | none =>
    obtain ⟨a2, h2, hr2⟩ := C10_tok a1 [46] wsDot k true hr1 hwd hk
    obtain ⟨a3, h3, hr3⟩ := tok_absent a2 [91] hr2 hk91
    exact ⟨a3, by simp only [dExternal, bind, Except.bind, h1, h2, h3, Bool.false_eq_true, ↓reduceIte, pure, Except.pure, ExternalS.value], hr3⟩
  | some e =>
    obtain ⟨hw1, hw2, hw3, hv3⟩ := hv
    simp only [ExternalS.valT, List.cons_append, List.append_assoc] at hr1
    obtain ⟨a2, h2, hr2⟩ := C10_tok a1 [46] wsDot _ true hr1 hwd (nws_cons (by decide) _)
    obtain ⟨a3, h3, hr3⟩ := C10_tok a2 [91] e.wsOpen _ false hr2 hw1 (valText_nws e.v _)
    obtain ⟨a4, h4, hr4⟩ := extValue_spec a3 e.v hv3 e.wsVal (93 :: (e.wsClose ++ k)) hw2 (nws_cons (by decide) _) hr3
    obtain ⟨a5, h5, hr5⟩ := C10_tok a4 [93] e.wsClose k true hr4 hw3 hk
    exact ⟨a5, by simp only [dExternal, bind, Except.bind, h1, h2, h3, ↓reduceIte, h4, h5, pure, Except.pure, ExternalS.value], hr5⟩

/-- `#edge(s,t).` / `#edge(s,t) : l1, ….` -/
structure EdgeS where
  ws0 : List Nat      -- after #edge
  ws1 : List Nat      -- after '('
  s   : Int
  ws2 : List Nat      -- after s
  ws3 : List Nat      -- after ','
  t   : Int
  ws4 : List Nat      -- after t
  ws5 : List Nat      -- after ')'
  cond : Option BodyS -- `:` filler, literals  (BodyS.wsArrow is the filler after ':')
  wsDot : List Nat

def condText : Option BodyS → List Nat
  | some b => 58 :: (b.wsArrow ++ litsText b.items)
  | none => []
def EdgeS.text (e : EdgeS) : List Nat :=
  kwEdge ++ (e.ws0 ++ (40 :: (e.ws1 ++ (printInt e.s ++ (e.ws2 ++ (44 :: (e.ws3 ++ (printInt e.t ++ (e.ws4 ++ (41 :: (e.ws5 ++ (condText e.cond ++ (46 :: e.wsDot)))))))))))))
def EdgeS.ok (e : EdgeS) : Prop :=
  Filler e.ws0 ∧ Filler e.ws1 ∧ Filler e.ws2 ∧ Filler e.ws3 ∧ Filler e.ws4 ∧ Filler e.ws5 ∧ Filler e.wsDot ∧ bodyOk e.cond ∧
  (I32MIN ≤ e.s ∧ e.s ≤ I32MAX) ∧ (I32MIN ≤ e.t ∧ e.t ≤ I32MAX)

theorem condition_spec (a : AS) (cond : Option BodyS) (k : List Nat) (hc : bodyOk cond) (hk : Sep k) (hk44 : ([44] : List Nat).isPrefixOf k = false)
    (hk58 : ([58] : List Nat).isPrefixOf k = false) (hr : a.rest = condText cond ++ k) :
    ∃ a', condition a = .ok (bodyVals cond, a') ∧ a'.rest = k := by
  cases cond with
  | none =>
    obtain ⟨a1, h1, hr1⟩ := tok_absent a [58] hr hk58
    exact ⟨a1, by simp only [condition, h1, bodyVals], hr1⟩
  | some b =>
    obtain ⟨hwa, hit⟩ := hc
    simp only [condText, List.cons_append, List.append_assoc] at hr
    obtain ⟨a1, h1, hr1⟩ := C10_tok a [58] b.wsArrow _ false hr hwa (litsText_nws b.items hit hk.nws)
    obtain ⟨a2, h2, hr2⟩ := lits_spec a1 b.items hit k hk hk44 hr1
    exact ⟨a2, by simp only [condition, h1, h2, bodyVals], hr2⟩

theorem printInt_head (v : Int) (t : List Nat) : ∃ c r, printInt v ++ t = c :: r ∧ (isDigit c = true ∨ c = 45) := by
  unfold printInt
  by_cases h : v < 0
  · rw [if_pos h]; exact ⟨45, _, rfl, Or.inr rfl⟩
  · obtain ⟨d, r', ed, hd⟩ := printNat_head_digit v.toNat
    rw [if_neg h, ed]; exact ⟨d, r' ++ t, rfl, Or.inl hd⟩

theorem printInt_nws (v : Int) (t : List Nat) : NWS (printInt v ++ t) := by
  obtain ⟨c, r, e, hc⟩ := printInt_head v t
  rw [e]
  rcases hc with h | rfl
  · exact nws_cons (isWs_false (by have := isDigit_iff.1 h; omega)) r
  · exact nws_cons (by decide) r

theorem dEdge_spec (a : AS) (e : EdgeS) (k : List Nat) (hok : e.ok) (hk : NWS k)
    (hr : a.rest = 40 :: (e.ws1 ++ (printInt e.s ++ (e.ws2 ++ (44 :: (e.ws3 ++ (printInt e.t ++ (e.ws4 ++ (41 :: (e.ws5 ++ (condText e.cond ++ (46 :: e.wsDot))))))))))) ++ k) :
    ∃ a', dEdge a = .ok (.call (.acycEdge e.s e.t (bodyVals e.cond)), a') ∧ a'.rest = k := by
  obtain ⟨_, h1w, h2w, h3w, h4w, h5w, hwd, hc, hs, ht⟩ := hok
  simp only [List.cons_append, List.append_assoc] at hr
  obtain ⟨a1, e1, hr1⟩ := C10_tok a [40] e.ws1 _ true hr h1w (printInt_nws e.s _)
  obtain ⟨a2, e2, hr2⟩ := C10_int a1 e.s [] e.ws2 _ hr1 Filler.nil h2w (Sep.cons (by decide) _) hs
  obtain ⟨a3, e3, hr3⟩ := C10_tok a2 [44] e.ws3 _ true hr2 h3w (printInt_nws e.t _)
  obtain ⟨a4, e4, hr4⟩ := C10_int a3 e.t [] e.ws4 _ hr3 Filler.nil h4w (Sep.cons (by decide) _) ht
  obtain ⟨a5, e5, hr5⟩ := C10_tok a4 [41] e.ws5 _ true hr4 h5w (by cases e.cond <;> exact nws_cons (by decide) _)
  obtain ⟨a6, e6, hr6⟩ := condition_spec a5 e.cond (46 :: (e.wsDot ++ k)) hc (Sep.cons (by decide) _) rfl rfl hr5
  obtain ⟨a7, e7, hr7⟩ := C10_tok a6 [46] e.wsDot k true hr6 hwd hk
  exact ⟨a7, by simp only [dEdge, bind, Except.bind, e1, e2, e3, e4, e5, e6, e7, pure, Except.pure], hr7⟩

inductive StmtS where
  | rule (r : RuleS)
  | assume (s : AssumeS)
  | project (s : ProjectS)
  | external (s : ExternalS)
  | edge (s : EdgeS)

def StmtS.text : StmtS → List Nat
  | .rule r => r.text
  | .assume s => s.text
  | .project s => s.text
  | .external s => s.text
  | .edge s => s.text
def StmtS.call : StmtS → Call
  | .rule r => r.call
  | .assume s => .assume (AssumeS.vals s.br)
  | .project s => .project (ProjectS.vals s.br)
  | .external s => .external s.atom.n (ExternalS.value s.val)
  | .edge s => .acycEdge s.s s.t (bodyVals s.cond)
def StmtS.ok : StmtS → Prop
  | .rule r => r.ok
  | .assume s => s.ok
  | .project s => s.ok
  | .external s => s.ok
  | .edge s => s.ok

theorem rule_head (r : RuleS) (hok : r.ok) (k : List Nat) : ∃ c t, r.text ++ k = c :: t ∧ RuleStart c := by
  obtain ⟨head, body, wsDot⟩ := r
  obtain ⟨hh, _, _, hne⟩ := hok
  cases head with
  | choice w1 items w2 => exact ⟨123, _, rfl, Or.inr (Or.inl rfl)⟩
  | disj items =>
    rcases atomsText_head items (fun p hp => (hh p hp).1) [] with rfl | ⟨c, t, e, hc⟩
    · cases body with
      | none => exact absurd hne (by simp)
      | some b => exact ⟨58, _, rfl, Or.inr (Or.inr rfl)⟩
    · rw [List.append_nil] at e
      rw [RuleS.text, HeadS.text, e]; exact ⟨c, _, rfl, Or.inl hc⟩

theorem stmtLoop_step (inc : Bool) (f : Nat) (a : AS) (acc : List Call) (st : StmtS) (k : List Nat) (hok : st.ok) (hk : NWS k)
    (h91 : ([91] : List Nat).isPrefixOf k = false) (ws : List Nat) (hws : Filler ws) (hr : a.rest = ws ++ (st.text ++ k)) :
    ∃ a', stmtLoop inc (f + 1) a acc = stmtLoop inc f a' (acc ++ [st.call]) ∧ a'.rest = k := by
  cases st with
  | rule r => exact stmtLoop_rule inc f a acc ws r.text k r.call hws hr (rule_head r hok k) (fun a1 r1 => C10_rule a1 r k hok hk r1)
  | assume s =>
    exact stmtLoop_kw inc f a acc ws (i := 4) rfl rfl s.ws0 _ k _ hws hok.1 (by cases s.br <;> exact nws_cons (by decide) _) hr
      (fun a1 r1 => dAssume_spec a1 s.br s.wsDot k hok.2.2 hok.2.1 hk r1)
  | project s =>
    exact stmtLoop_kw inc f a acc ws (i := 1) rfl rfl s.ws0 _ k _ hws hok.1 (by cases s.br <;> exact nws_cons (by decide) _) hr
      (fun a1 r1 => dProject_spec a1 s.br s.wsDot k hok.2.2 hok.2.1 hk r1)
  | external s =>
    exact stmtLoop_kw inc f a acc ws (i := 3) rfl rfl s.ws0 _ k _ hws hok.1
      (by rw [List.append_assoc]; exact lower_nws (atomItem_head s.atom hok.2.1 _)) hr
      (fun a1 r1 => dExternal_spec a1 s.atom s.wsDot s.val k hok.2.1 hok.2.2.1 hok.2.2.2 hk h91 r1)
  | edge s =>
    exact stmtLoop_kw inc f a acc ws (i := 6) rfl rfl s.ws0 _ k _ hws hok.1 (nws_cons (by decide) _) hr
      (fun a1 r1 => dEdge_spec a1 s k hok hk r1)

def progText : List StmtS → List Nat
  | [] => []
  | st :: r => st.text ++ progText r

theorem skipWs_nil (a : AS) (h : a.rest = []) : a.skipWs.rest = [] :=
  skipWs_nws a h nws_nil

-- non-vacuity: `a ;b :- not x_3.`␤`{c}.`␤`#external d. [true]`␤`#edge(-1,2) : a.`
instance (ws : List Nat) : Decidable (Filler ws) := by unfold Filler; infer_instance
instance (s : Nat) : Decidable (IsSep s) := by unfold IsSep; infer_instance

def exProg : List StmtS :=
  [ .rule { head := .disj [(⟨1, .letter, [32]⟩, 59, []), (⟨2, .letter, [32]⟩, 59, [])],
            body := some ⟨[32], [(⟨true, 3, .x_, [], []⟩, [])]⟩, wsDot := [10] },
    .rule { head := .choice [] [(⟨3, .letter, []⟩, 59, [])] [], body := none, wsDot := [10] },
    .external { ws0 := [32], atom := ⟨4, .letter, []⟩, wsDot := [32], val := some ⟨[], 1, [], [10]⟩ },
    .edge { ws0 := [], ws1 := [], s := -1, ws2 := [], ws3 := [], t := 2, ws4 := [], ws5 := [32], cond := some ⟨[32], [(⟨false, 1, .letter, [], []⟩, [])]⟩, wsDot := [] } ]

example : ∀ st ∈ exProg, st.ok := by
  intro st hst
  simp only [exProg, List.mem_cons, List.not_mem_nil, or_false] at hst
  rcases hst with h | h | h | h <;> subst h
  · refine ⟨?_, by decide, ⟨by decide, ?_⟩, trivial⟩
    · intro p hp
      simp only [List.mem_cons, List.not_mem_nil, or_false] at hp
      rcases hp with h | h <;> subst h <;> exact ⟨⟨⟨by decide, by decide⟩, by decide⟩, Or.inl rfl, by decide, by decide⟩
    · intro p hp
      simp only [List.mem_singleton] at hp; subst hp
      exact ⟨⟨⟨by decide, by decide⟩, by decide, by decide⟩, by decide⟩
  · refine ⟨⟨by decide, by decide, ?_⟩, by decide, trivial, trivial⟩
    intro p hp
    simp only [List.mem_singleton] at hp; subst hp
    exact ⟨⟨⟨by decide, by decide⟩, by decide⟩, Or.inl rfl, by decide, by decide⟩
  · exact ⟨by decide, ⟨⟨by decide, by decide⟩, by decide⟩, by decide, by decide, by decide, by decide, by decide⟩
  · refine ⟨by decide, by decide, by decide, by decide, by decide, by decide, by decide, ⟨by decide, ?_⟩, by decide, by decide⟩
    intro p hp
    simp only [List.mem_singleton] at hp; subst hp
    exact ⟨⟨⟨by decide, by decide⟩, by decide, by decide⟩, by decide⟩

example : (TextIn.read (progText exProg)).calls =
    [.initProgram false, .beginStep, .rule 0 [1, 2] [-3], .rule 1 [3] [], .external 4 1, .acycEdge (-1) 2 [1], .endStep] := by decide +kernel
end PotasscoVerif.C10
