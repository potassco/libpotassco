/-
  C08 (continued) — acyclicity edges over SEVERAL incremental steps: a corollary of `C02_steps_equivalence` (Props/C02o.lean), as
  `C08_edges_active` is one of `C02_equivalence_ext`.
-/
import PotasscoVerif.Props.C08c
import PotasscoVerif.Props.C02o
namespace PotasscoVerif.C08
open PotasscoVerif PotasscoVerif.Asp PotasscoVerif.Convert PotasscoVerif.C02

/-- **C08 (edges, several steps)**: for incremental programs of ANY number of steps of rules, minimize, output and edge directives (node numbers in the
    int range; no output directive uses an `_edge(…)` helper name; no external directives; either setting of the extension): the program given so far
    and the program emitted so far have the same answer sets one to one, and under corresponding answer sets an edge `(a,b)` — given in ANY step — is
    active iff the emitted program shows `_edge(a,b)`. -/
theorem C08_steps_edges_active (ext : Bool) (dss : List (List Call)) (hx : ∀ ds ∈ dss, ∀ d ∈ ds, PlainOk d)
    (hnh : ∀ ds ∈ dss, ∀ d ∈ ds, isHeu d = false) (hE : ∀ ds ∈ dss, extCalls ds = [])
    (hr : ∀ a b cond, Call.acycEdge a b cond ∈ dss.flatten → (-2147483648 ≤ a ∧ a ≤ 2147483647) ∧ (-2147483648 ≤ b ∧ b ≤ 2147483647))
    (hno : ∀ n cond, Call.output n cond ∈ dss.flatten → ∀ a b, n ≠ edgeName a b) :
    ∃ E : I → I,
      (∀ X, Stable (rulesOf dss.flatten) X → Stable (rulesOf (convert ext (stepsCalls dss)).out) (E X) ∧ E X 1 = false) ∧
      (∀ X', Stable (rulesOf (convert ext (stepsCalls dss)).out) X' → X' 1 = false → ∃ X, Stable (rulesOf dss.flatten) X ∧ E X = X') ∧
      (∀ X a b, (-2147483648 ≤ a ∧ a ≤ 2147483647) → (-2147483648 ≤ b ∧ b ≤ 2147483647) →
        (edgeActive dss.flatten X a b ↔ shownOut (convert ext (stepsCalls dss)).out (E X) (edgeName a b))) := by
  obtain ⟨E, h1, h2, h3⟩ := C02_steps_equivalence ext dss hx hnh hE
  exact ⟨E, fun X hs => ⟨(h1 X hs).1, (h1 X hs).2.1⟩, fun X' hs h0 => ⟨_, h2 X' hs h0⟩, edges_shown h3 hr hno⟩

/-- **C08 (edges, several steps, ANY external directives, extensions on)**: as `C08_steps_edges_active`, with the externals passed on and read by `progOf` -/
theorem C08_steps_edges_active_ext (dss : List (List Call)) (hx : ∀ ds ∈ dss, ∀ d ∈ ds, PlainOk d)
    (hnh : ∀ ds ∈ dss, ∀ d ∈ ds, isHeu d = false)
    (hr : ∀ a b cond, Call.acycEdge a b cond ∈ dss.flatten → (-2147483648 ≤ a ∧ a ≤ 2147483647) ∧ (-2147483648 ≤ b ∧ b ≤ 2147483647))
    (hno : ∀ n cond, Call.output n cond ∈ dss.flatten → ∀ a b, n ≠ edgeName a b) :
    ∃ E : I → I,
      (∀ X, Stable (progOf dss.flatten) X → Stable (progOf (convert true (stepsCalls dss)).out) (E X) ∧ E X 1 = false) ∧
      (∀ X', Stable (progOf (convert true (stepsCalls dss)).out) X' → X' 1 = false → ∃ X, Stable (progOf dss.flatten) X ∧ E X = X') ∧
      (∀ X a b, (-2147483648 ≤ a ∧ a ≤ 2147483647) → (-2147483648 ≤ b ∧ b ≤ 2147483647) →
        (edgeActive dss.flatten X a b ↔ shownOut (convert true (stepsCalls dss)).out (E X) (edgeName a b))) := by
  obtain ⟨E, h1, h2, h3⟩ := C02_steps_equivalence_ext dss hx hnh
  exact ⟨E, fun X hs => ⟨(h1 X hs).1, (h1 X hs).2.1⟩, fun X' hs h0 => ⟨_, h2 X' hs h0⟩, edges_shown h3 hr hno⟩

/-- non-vacuity: an edge in the first step, another in the second -/
def exEdgeSteps : List (List Call) := [[.rule 1 [1, 2] [], .acycEdge 0 1 [1]], [.rule 0 [3] [2], .acycEdge 1 0 [3, -1]]]

example : (∀ ds ∈ exEdgeSteps, ∀ d ∈ ds, PlainOk d) ∧ (∀ ds ∈ exEdgeSteps, ∀ d ∈ ds, isHeu d = false) ∧ (∀ ds ∈ exEdgeSteps, extCalls ds = []) := by
  decide

end PotasscoVerif.C08
