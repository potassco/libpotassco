/-
  C11 — Rule builder yields exactly the rule that was described to it.

  Concrete side: Model/RuleBuilder.lean (header fields + word memory with growth, checked accesses).
  Abstract side: Spec/RuleSpec.lean (head/body lists; `none` = outside the documented protocol).
  The relation between the two and one lemma per operation: Lemmas/RuleBuilder.lean, Lemmas/RuleBuilder2.lean; here the histories.
  Several builders with assignment and swap between them: Props/C11m.lean.
-/
import PotasscoVerif.Lemmas.RuleBuilder2
namespace PotasscoVerif.C11
open PotasscoVerif.RuleBuilder PotasscoVerif.RuleSpec

inductive Op where
  | start (ht : Nat) | startMinimize (prio : Int) | startBody | startSum (bound : Int)
  | addHead (a : Int) | addGoal (lit w : Int) | setBound (b : Int) | end_ | clear
  | clearHead | clearBody | weaken (to : Nat) (resetWeights : Bool)
  | copy          -- copy construction / assignment as seen by one builder, which is replaced by a copy of itself: `mem_.grow(top); memcpy`
deriving Repr, DecidableEq

def stepC (c : RB) : Op → Option RB
  | .start ht => c.start ht
  | .startMinimize p => c.startMinimize p
  | .startBody => c.startBody
  | .startSum b => c.startSum b
  | .addHead a => c.addHead a
  | .addGoal l w => c.addGoal l w
  | .setBound b => c.setBound b
  | .end_ => some c.end_
  | .clear => some c.clear
  | .clearHead => some c.clearHead
  | .clearBody => some c.clearBody
  | .weaken to w => c.weaken to w
  | .copy => some c.copy

def stepA (a : AR) : Op → Option AR
  | .start ht => a.start ht
  | .startMinimize p => a.startMinimize p
  | .startBody => a.startBody
  | .startSum b => a.startSum b
  | .addHead x => a.addHead x
  | .addGoal l w => a.addGoal l w
  | .setBound b => a.setBound b
  | .end_ => some a.end_
  | .clear => some AR.init
  | .clearHead => a.clearHead
  | .clearBody => a.clearBody
  | .weaken to w => a.weaken to w
  | .copy => some a

def runC : RB → List Op → Option RB
  | c, [] => some c
  | c, op :: ops => (stepC c op).bind (fun c' => runC c' ops)

def runA : AR → List Op → Option AR
  | a, [] => some a
  | a, op :: ops => (stepA a op).bind (fun a' => runA a' ops)

theorem step_ref {c a a'} (h : R c a) (op : Op) (hs : stepA a op = some a') :
    ∃ c', stepC c op = some c' ∧ R c' a' := by
  cases op with
  | start ht => exact start_ref h ht hs
  | startMinimize p => exact startMinimize_ref h p hs
  | startBody => exact startBodyT_ref h 0 (-1) hs
  | startSum b => exact startBodyT_ref h 1 b hs
  | addHead x => exact addHead_ref h x hs
  | addGoal l w => exact addGoal_ref h l w hs
  | setBound b => exact setBound_ref h b hs
  | end_ => cases hs; exact ⟨_, rfl, end_ref h⟩
  | clear => cases hs; exact ⟨_, rfl, R_clear h⟩
  | clearHead => exact ⟨_, rfl, clearHead_ref h hs⟩
  | clearBody => exact ⟨_, rfl, clearBody_ref h hs⟩
  | weaken to w => exact weaken_ref h to w hs
  | copy => cases hs; exact ⟨_, rfl, copy_ref h⟩

theorem run_ref : ∀ (ops : List Op) {c a a'}, R c a → runA a ops = some a' → ∃ c', runC c ops = some c' ∧ R c' a' := by
  intro ops
  induction ops with
  | nil => intro c a a' h hs; cases hs; exact ⟨c, rfl, h⟩
  | cons op ops ih =>
    intro c a a' h hs
    obtain ⟨a1, hst, hs⟩ := Option.bind_eq_some_iff.mp hs
    obtain ⟨c1, hc1, h1⟩ := step_ref h op hst
    obtain ⟨c', hc', h'⟩ := ih h1 hs
    exact ⟨c', by rw [runC, hc1]; exact hc', h'⟩

/-- a builder whose block initially has room for `n` words behind the header (the C++ starts with 11). -/
def initN (n : Nat) : RB := { mem := { data := List.replicate n 0 } }

theorem R_initN (n : Nat) : R (initN n) AR.init := R_empty _ rfl

/-- **C11.** Whatever sequence of operations (`Op`) that the specification accepts is applied to a fresh builder — of any
    length, with any atoms, literals, weights and bounds, weakening to any body type with or without resetting the weights, and
    whatever the initial capacity of its block — the memory-block model accepts it (no `POTASSCO_ASSERT` fires), no
    access leaves the block (`viol = false`, `viewOk`), and the rule it reports / passes on at `end` is
    exactly the rule of the list specification.  Applied to every prefix of a history this is the statement
    "after every operation". -/
theorem C11_refines (n : Nat) (ops : List Op) (a' : AR) (hs : runA AR.init ops = some a') :
    ∃ c', runC (initN n) ops = some c' ∧ c'.view = a'.view ∧ c'.viewOk = true ∧ c'.viol = false := by
  obtain ⟨c', hc', h'⟩ := run_ref ops (R_initN n) hs
  exact ⟨c', hc', (view_ref h').1, (view_ref h').2, h'.noviol⟩

/-- **growth independence**: the reported rule does not depend on the initial capacity, i.e. on when and
    how often the block is reallocated. -/
theorem C11_growth_independent (n m : Nat) (ops : List Op) (a' : AR) (hs : runA AR.init ops = some a') :
    ∃ c₁ c₂, runC (initN n) ops = some c₁ ∧ runC (initN m) ops = some c₂ ∧ c₁.view = c₂.view := by
  obtain ⟨c₁, h₁, v₁, _, _⟩ := C11_refines n ops a' hs
  obtain ⟨c₂, h₂, v₂, _, _⟩ := C11_refines m ops a' hs
  exact ⟨c₁, c₂, h₁, h₂, v₁.trans v₂.symm⟩

/-- the production configuration: `RuleBuilder()` starts with a 64-byte block. -/
theorem C11_init_is_initN : RB.init = initN 11 := rfl

/-! #### non-vacuity: a history that uses every listed operation, forces two reallocations, reuses the
    builder after `end`, and is accepted by the specification -/

def exOps : List Op :=
  [.start 1, .addHead 5, .addHead 6, .startSum 3, .addGoal (-2) 2, .addGoal 3 0, .addGoal 4 1, .addGoal 7 1,
   .addGoal 8 1, .addGoal 9 1, .addGoal 10 1, .setBound 4, .end_,
   .startMinimize (-1), .addGoal 1 (-5), .addGoal (-2) 7, .end_, .clear,
   .startBody, .addGoal 1 1, .addGoal (-2) 1, .start 0, .addHead 2147483647, .end_,
   .startSum 5, .addGoal 1 2, .addGoal (-2) 4, .start 0, .addHead 9, .copy, .weaken 2 true, .clearHead, .start 1, .addHead 3, .addHead 4,
   .weaken 0 false, .clearBody, .addGoal 7 1, .copy, .end_]

example : (runA AR.init exOps).map AR.view =
    some { ht := 1, head := [3, 4], bt := 0, bound := -1, body := [(7, 1)] } := by decide +kernel

example : (runC RB.init exOps).map RB.view =
    some { ht := 1, head := [3, 4], bt := 0, bound := -1, body := [(7, 1)] } := by decide +kernel

/-- the intermediate rule after `weaken 2 true` in that history: bound ceil(5/2) = 3, weights 1 -/
example : (runA AR.init (exOps.take 31)).map AR.view = some { ht := 0, head := [9], bt := 2, bound := 3, body := [(1, 1), (-2, 1)] } := by decide +kernel

/-- head-first and body-first descriptions of the same rule give the same rule (instance; the general
    statement follows from `C11_refines` because both orders are accepted by the specification). -/
example : (runA AR.init [.start 1, .addHead 5, .startSum 2, .addGoal 3 4]).map AR.view =
          (runA AR.init [.startSum 2, .addGoal 3 4, .start 1, .addHead 5]).map AR.view := by decide

end PotasscoVerif.C11
