/-
  C03 (continued) — the aspif reader against a declarative grammar, `Prog`.

  The grammar is a family of languages (sets of (word, value) pairs, Lemmas/AspifLang.lean) built from number tokens, strings,
  sequencing, repetition and case distinction on a value read before — no stream, no look-ahead, no fuel, no error plumbing.
  `true` is the strict reading ("whitespace-separated tokens": every token is set off by filler or carries a sign, the byte string of
  a string field is separated from its length by one blank); `false` the lenient one (what the reader also tolerates: tokens glued to a
  sign, any one character as string separator).
-/
import PotasscoVerif.Lemmas.AspifLang
import PotasscoVerif.Props.C03b
namespace PotasscoVerif.C03
open PotasscoVerif PotasscoVerif.CharStream PotasscoVerif.AspifIn PotasscoVerif.Decimal PotasscoVerif.AspifLang
open PotasscoVerif.BufferedStream (IntRes isWs isDigit I64MAX)

def theoryL (rt : Nat) : Bool → Lang Call := fun s =>
  seq (posL s) (fun tId =>
    if rt = N Gen.Theory_t_Number then seq (num s true I32MIN I32MAX) (fun n => ret (.theoryNum tId n))
    else if rt = N Gen.Theory_t_Symbol then seq (strL s) (fun x => ret (.theorySym tId x))
    else if rt = N Gen.Theory_t_Compound then seq (num s true Gen.Tuple_t_eMin I32MAX) (fun t => seq (idsL s) (fun args => ret (.theoryCompound tId t args)))
    else if rt = N Gen.Theory_t_Element then seq (idsL s) (fun ts => seq (litsL s) (fun c => ret (.theoryElement tId ts c)))
    else if rt = N Gen.Theory_t_Atom then seq (posL s) (fun t => seq (idsL s) (fun es => ret (.theoryAtom tId t es none)))
    else if rt = N Gen.Theory_t_AtomWithGuard then
      seq (posL s) (fun t => seq (idsL s) (fun es => seq (posL s) (fun op => seq (posL s) (fun rhs => ret (.theoryAtom tId t es (some (op, rhs)))))))
    else none')

theorem Spec.theory (rt : Nat) : Spec (AspifIn.theory rt) (theoryL rt) := by
  unfold AspifIn.theory theoryL
  refine Spec.bind Spec.pos (fun tId => ?_)
  refine Spec.ite _ (Spec.bind (Spec.intIn _ _ (by decide) (by decide)) (fun n => Spec.pure _)) ?_
  refine Spec.ite _ (Spec.bind Spec.string (fun n => Spec.pure _)) ?_
  refine Spec.ite _ (Spec.bind (Spec.intIn _ _ (by decide) (by decide)) (fun t => Spec.bind Spec.ids (fun args => Spec.pure _))) ?_
  refine Spec.ite _ (Spec.bind Spec.ids (fun ts => Spec.bind Spec.lits (fun c => Spec.pure _))) ?_
  refine Spec.ite _ (Spec.bind Spec.pos (fun t => Spec.bind Spec.ids (fun es => Spec.pure _))) ?_
  refine Spec.ite _ (Spec.bind Spec.pos (fun t => Spec.bind Spec.ids (fun es => Spec.bind Spec.pos (fun op => Spec.bind Spec.pos (fun rhs => Spec.pure _))))) ?_
  exact Spec.error

def commentL (s : Bool) : Lang (Option Call) := fun w v =>
  v = none ∧ (s = true → ∃ (body : List Nat) (crlf : Bool), w = body ++ (if crlf then [13, 10] else [10]) ∧ (∀ x ∈ body, x ≠ 0 ∧ x ≠ 10 ∧ x ≠ 13) ∧ NDS body)

theorem get_eol {a : AS} (crlf : Bool) {r : List Nat} (h : a.rest = (if crlf then [13, 10] else [10]) ++ r) :
    a.get = (10, { rest := r, line := a.line + 1, canUnget := true }) := by
  rw [AS.get, h]; cases crlf <;> rfl

theorem skipLineF_strict (body : List Nat) (crlf : Bool) (r : List Nat) (hb : ∀ x ∈ body, x ≠ 0 ∧ x ≠ 10 ∧ x ≠ 13)
    (f : Nat) (hf : body.length < f) (a : AS) (hr : a.rest = body ++ ((if crlf then [13, 10] else [10]) ++ r)) : (skipLineF f a).rest = r := by
  induction body generalizing f a with
  | nil =>
    obtain ⟨f, rfl⟩ := Nat.exists_eq_succ_of_ne_zero (Nat.ne_zero_of_lt hf)
    have hp : (a.peek == 0) = false := by rw [AS.peek, hr]; cases crlf <;> rfl
    rw [skipLineF_succ, hp, get_eol crlf hr]; rfl
  | cons x b ih =>
    obtain ⟨f, rfl⟩ := Nat.exists_eq_succ_of_ne_zero (Nat.ne_zero_of_lt hf)
    obtain ⟨h0, h10, h13⟩ := hb x List.mem_cons_self
    have hp : (a.peek == 0) = false := by rw [AS.peek, hr]; exact beq_eq_false_iff_ne.mpr h0
    rw [skipLineF_succ, hp, AS.get_plain hr h0 h13 h10, if_neg Bool.false_ne_true, if_neg (mt beq_iff_eq.mp h10)]
    exact ih (fun y hy => hb y (List.mem_cons_of_mem _ hy)) f (Nat.lt_of_succ_lt_succ hf) _ rfl

theorem Spec.comment : Spec (fun a => (.ok (none, skipLine a) : Except Nat (Option Call × AS))) commentL := by
  refine ⟨?_, ?_, ?_⟩
  · intro a x a' h
    cases h
    obtain ⟨w, e⟩ := (skipLineF_le (a.rest.length + 1) a).2.2
    exact ⟨w, e.symm, rfl, nofun⟩
  · rintro w x a k ⟨rfl, hs⟩ hr _
    obtain ⟨body, crlf, rfl, hb, _⟩ := hs rfl
    refine ⟨skipLine a, rfl, skipLineF_strict body crlf k hb _ ?_ a (by rw [hr, List.append_assoc])⟩
    rw [hr, List.length_append, List.length_append]; omega
  · rintro w x k ⟨_, hs⟩ hk
    obtain ⟨body, crlf, rfl, _, hnd⟩ := hs rfl
    cases body with
    | cons y t => exact NDS_cons (hnd y t rfl)
    | nil => cases crlf <;> exact NDS_cons rfl

def directiveL (rt : Nat) : Bool → Lang (Option Call) := fun s =>
  if rt = N Gen.Directive_t_Rule then
    seq (numN s true (N Gen.Head_t_eMax)) (fun ht => seq (atomsL s) (fun hd => seq (numN s true (N Gen.Body_t_eMax)) (fun bt =>
      if bt = N Gen.Body_t_Normal then seq (litsL s) (fun b => ret (some (.rule ht hd b)))
      else seq (num s true I32MIN I32MAX) (fun bnd => seq (wlitsL s 0) (fun b => ret (some (.sumRule ht hd bnd b)))))))
  else if rt = N Gen.Directive_t_Minimize then
    seq (num s true I32MIN I32MAX) (fun p => seq (wlitsL s I32MIN) (fun b => ret (some (.minimize p b))))
  else if rt = N Gen.Directive_t_Project then seq (atomsL s) (fun l => ret (some (.project l)))
  else if rt = N Gen.Directive_t_Output then seq (strL s) (fun x => seq (litsL s) (fun c => ret (some (.output x c))))
  else if rt = N Gen.Directive_t_External then seq (atomL s) (fun x => seq (numN s true (N Gen.Value_t_eMax)) (fun v => ret (some (.external x v))))
  else if rt = N Gen.Directive_t_Assume then seq (litsL s) (fun l => ret (some (.assume l)))
  else if rt = N Gen.Directive_t_Heuristic then
    seq (numN s true (N Gen.Heuristic_t_eMax)) (fun t => seq (atomL s) (fun x => seq (num s true I32MIN I32MAX) (fun bias =>
      seq (numN s true (N I32MAX)) (fun prio => seq (litsL s) (fun c => ret (some (.heuristic x t bias prio c)))))))
  else if rt = N Gen.Directive_t_Edge then
    seq (numN s true (N I32MAX)) (fun x => seq (numN s true (N I32MAX)) (fun y => seq (litsL s) (fun c => ret (some (.acycEdge x y c)))))
  else if rt = N Gen.Directive_t_Theory then seq (posL s) (fun tt => seq (theoryL tt s) (fun c => ret (some c)))
  else if rt = N Gen.Directive_t_Comment then commentL s
  else none'

theorem Spec.directive (rt : Nat) : Spec (AspifIn.directive rt) (directiveL rt) := by
  unfold AspifIn.directive directiveL
  refine Spec.ite _ (Spec.bind (Spec.posMax _ (by decide)) (fun ht => Spec.bind Spec.atoms (fun hd => Spec.bind (Spec.posMax _ (by decide)) (fun bt =>
    Spec.ite _ (Spec.bind Spec.lits (fun b => Spec.pure _))
      (Spec.bind (Spec.intIn _ _ (by decide) (by decide)) (fun bnd => Spec.bind (Spec.wlits _ (by decide)) (fun b => Spec.pure _))))))) ?_
  refine Spec.ite _ (Spec.bind (Spec.intIn _ _ (by decide) (by decide)) (fun p => Spec.bind (Spec.wlits _ (by decide)) (fun b => Spec.pure _))) ?_
  refine Spec.ite _ (Spec.bind Spec.atoms (fun l => Spec.pure _)) ?_
  refine Spec.ite _ (Spec.bind Spec.string (fun x => Spec.bind Spec.lits (fun c => Spec.pure _))) ?_
  refine Spec.ite _ (Spec.bind Spec.atom (fun x => Spec.bind (Spec.posMax _ (by decide)) (fun v => Spec.pure _))) ?_
  refine Spec.ite _ (Spec.bind Spec.lits (fun l => Spec.pure _)) ?_
  refine Spec.ite _ (Spec.bind (Spec.posMax _ (by decide)) (fun t => Spec.bind Spec.atom (fun x => Spec.bind (Spec.intIn _ _ (by decide) (by decide)) (fun bias =>
    Spec.bind (Spec.posMax _ (by decide)) (fun prio => Spec.bind Spec.lits (fun c => Spec.pure _)))))) ?_
  refine Spec.ite _ (Spec.bind (Spec.posMax _ (by decide)) (fun x => Spec.bind (Spec.posMax _ (by decide)) (fun y => Spec.bind Spec.lits (fun c => Spec.pure _)))) ?_
  refine Spec.ite _ (Spec.bind Spec.pos (fun tt => Spec.bind (Spec.theory tt) (fun c => Spec.pure _))) ?_
  refine Spec.ite _ Spec.comment ?_
  exact Spec.error

/-- directives up to and including the terminating `0`; `lead`: must the first token be set off from what precedes it -/
inductive Dirs (s : Bool) : Bool → List Nat → List Call → Prop
  | done {lead : Bool} {w : List Nat} : numN s lead (N Gen.Directive_t_eMax) w 0 → Dirs s lead w []
  | dir {lead : Bool} {w1 w2 w3 : List Nat} {rt : Nat} {oc : Option Call} {cs : List Call} :
      numN s lead (N Gen.Directive_t_eMax) w1 rt → rt ≠ 0 → directiveL rt s w2 oc → Dirs s true w3 cs →
      Dirs s lead (w1 ++ (w2 ++ w3)) (oc.toList ++ cs)

theorem numN_pos {s lead : Bool} {m : Nat} {w : List Nat} {n : Nat} (h : numN s lead m w n) : 1 ≤ w.length := num_pos h

theorem dirs_nds {w : List Nat} {cs : List Call} (h : Dirs true true w cs) (k : List Nat) : NDS (w ++ k) := by
  cases h with
  | done hl => exact num_nds hl k
  | dir hl _ _ _ => rw [List.append_assoc]; exact num_nds hl _

theorem dirs_pos {s lead : Bool} {w : List Nat} {cs : List Call} (h : Dirs s lead w cs) : 1 ≤ w.length := by
  cases h with
  | done hl => exact numN_pos hl
  | dir hl _ _ _ => have := numN_pos hl; simp only [List.length_append]; omega

theorem hDirMax : ((N Gen.Directive_t_eMax : Nat) : Int) < I64MAX := by decide

theorem dirStep_ok_inv (a a1 : AS) (h : dirStep a = .stop (.ok a1)) : posMax (N Gen.Directive_t_eMax) a = .ok (0, a1) := by
  unfold dirStep at h
  split at h
  · cases h
  · rename_i rt a1' hp
    split at h
    · rename_i h0; cases h; rw [hp, h0]
    · split at h <;> cases h

theorem dirStep_cont_inv (a : AS) (c : Option Call) (a2 : AS) (h : dirStep a = .cont c a2) :
    ∃ rt a1, posMax (N Gen.Directive_t_eMax) a = .ok (rt, a1) ∧ rt ≠ 0 ∧ AspifIn.directive rt a1 = .ok (c, a2) := by
  unfold dirStep at h
  split at h
  · cases h
  · rename_i rt a1 hp
    split at h
    · cases h
    · rename_i h0
      split at h
      · cases h
      · rename_i c' a2' hd; cases h; exact ⟨rt, a1, hp, h0, hd⟩

theorem dirStep_of_zero {a a1 : AS} (h : posMax (N Gen.Directive_t_eMax) a = .ok (0, a1)) : dirStep a = .stop (.ok a1) := by
  unfold dirStep; rw [h]; rfl

theorem dirStep_of_dir {a a1 a2 : AS} {rt : Nat} {c : Option Call} (h : posMax (N Gen.Directive_t_eMax) a = .ok (rt, a1)) (h0 : rt ≠ 0)
    (hd : AspifIn.directive rt a1 = .ok (c, a2)) : dirStep a = .cont c a2 := by
  unfold dirStep; rw [h]; dsimp only; rw [if_neg h0, hd]

theorem push_reverse (c : Option Call) (acc cs : List Call) :
    (match c with | some c => c :: acc | none => acc).reverse ++ cs = acc.reverse ++ (c.toList ++ cs) := by
  cases c
  · rfl
  · rw [List.reverse_cons, List.append_assoc]; rfl

theorem stepLoop_sound (lead : Bool) : ∀ (f : Nat) (a : AS) (acc cs : List Call) (a1 : AS), stepLoop f a acc = (cs, .ok a1) →
    ∃ w cs', a.rest = w ++ a1.rest ∧ Dirs false lead w cs' ∧ cs = acc.reverse ++ cs' := by
  intro f
  induction f generalizing lead with
  | zero => intro a acc cs a1 h; cases h
  | succ f ih =>
    intro a acc cs a1 h
    rw [C04.stepLoop_succ] at h
    cases hd : dirStep a with
    | stop r =>
      rw [hd] at h
      cases h
      obtain ⟨w, e, hl⟩ := posMax_sound lead (N Gen.Directive_t_eMax) hDirMax a 0 a1 (dirStep_ok_inv a a1 hd)
      exact ⟨w, [], e, Dirs.done hl, (List.append_nil _).symm⟩
    | cont c a2 =>
      rw [hd] at h
      obtain ⟨rt, a0, hp, h0, hdir⟩ := dirStep_cont_inv a c a2 hd
      obtain ⟨w1, e1, l1⟩ := posMax_sound lead (N Gen.Directive_t_eMax) hDirMax a rt a0 hp
      obtain ⟨w2, e2, l2⟩ := (Spec.directive rt).sound a0 c a2 hdir
      obtain ⟨w3, cs', e3, l3, ec⟩ := ih true a2 _ cs a1 h
      exact ⟨w1 ++ (w2 ++ w3), c.toList ++ cs', by rw [e1, e2, e3, List.append_assoc, List.append_assoc], Dirs.dir l1 h0 l2 l3, ec.trans (push_reverse c acc cs')⟩

theorem stepLoop_complete : ∀ (lead : Bool) (w : List Nat) (cs : List Call), Dirs true lead w cs → ∀ (f : Nat) (a : AS) (acc : List Call) (k : List Nat),
    w.length < f → a.rest = w ++ k → NDS k → ∃ a', stepLoop f a acc = (acc.reverse ++ cs, .ok a') ∧ a'.rest = k := by
  intro lead w cs hd
  induction hd with
  | @done lead w hl =>
    intro f a acc k hf hr hk
    obtain ⟨f, rfl⟩ := Nat.exists_eq_succ_of_ne_zero (Nat.ne_zero_of_lt hf)
    obtain ⟨a1, e1, r1⟩ := posMax_complete lead (N Gen.Directive_t_eMax) hDirMax w 0 a k hl hr hk
    exact ⟨a1, by rw [C04.stepLoop_succ, dirStep_of_zero e1, List.append_nil], r1⟩
  | @dir lead w1 w2 w3 rt oc cs hl h0 hdir hd3 ih =>
    intro f a acc k hf hr hk
    obtain ⟨f, rfl⟩ := Nat.exists_eq_succ_of_ne_zero (Nat.ne_zero_of_lt hf)
    have hs3 : NDS (w3 ++ k) := dirs_nds hd3 k
    have hs2 : NDS (w2 ++ (w3 ++ k)) := (Spec.directive rt).safe w2 oc _ hdir hs3
    obtain ⟨a1, e1, r1⟩ := posMax_complete lead (N Gen.Directive_t_eMax) hDirMax w1 rt a (w2 ++ (w3 ++ k)) hl
      (by rw [hr, List.append_assoc, List.append_assoc]) hs2
    obtain ⟨a2, e2, r2⟩ := (Spec.directive rt).complete w2 oc a1 (w3 ++ k) hdir r1 hs3
    have hlen := numN_pos hl
    rw [C04.stepLoop_succ, dirStep_of_dir e1 h0 e2, ← push_reverse]
    exact ih f a2 _ k (by rw [List.length_append, List.length_append] at hf; omega) r2 hk

/-- one step, or (incremental programs only) several steps separated by filler -/
inductive Steps (s : Bool) : Bool → List Nat → List Call → Prop
  | last {inc : Bool} {w ws : List Nat} {cs : List Call} : Dirs s false w cs → Filler ws → Steps s inc (w ++ ws) ([.beginStep] ++ cs ++ [.endStep])
  | more {w ws rest : List Nat} {cs cs' : List Call} : Dirs s false w cs → Filler ws → (s = true → ws ≠ []) → NWS rest → rest.headD 0 ≠ 0 →
      Steps s true rest cs' → Steps s true (w ++ (ws ++ rest)) ([.beginStep] ++ cs ++ [.endStep] ++ cs')

theorem stepsLoop_sound : ∀ (f : Nat) (inc : Bool) (a : AS) (acc calls : List Call), (∀ c ∈ a.rest, c ≠ 0) →
    stepsLoop f inc a acc = { calls := calls, err := none } → ∃ cs, calls = acc ++ cs ∧ Steps false inc a.rest cs := by
  intro f
  induction f with
  | zero => intro inc a acc calls _ h; cases h
  | succ f ih =>
    intro inc a acc calls hnul h
    rw [C04.stepsLoop_succ] at h
    generalize hr : stepLoop (a.rest.length + 1) a [] = r at h
    obtain ⟨cs1, _ | a1⟩ := r
    · cases h
    · obtain ⟨w, _, e1, hd, rfl⟩ := stepLoop_sound false _ a [] _ a1 hr
      obtain ⟨ws, e2, hws, hnw⟩ := skipWs_max a1
      rw [e1, e2] at hnul ⊢
      have hnul' : ∀ c ∈ a1.skipWs.rest, c ≠ 0 := fun c hc => hnul c (List.mem_append_right _ (List.mem_append_right _ hc))
      dsimp only at h
      generalize hm : (more a1).1 = m at h
      cases m
      · cases (h : ({ calls := _, err := none } : Result) = _)
        have hnil : a1.skipWs.rest = [] := by
          rcases hrr : a1.skipWs.rest with _ | ⟨c, r⟩
          · rfl
          · have h0 : a1.skipWs.peek = 0 := bne_eq_false_iff_eq.mp hm
            rw [AS.peek, hrr] at h0
            exact absurd h0 (hnul' c (hrr ▸ List.mem_cons_self))
        refine ⟨[.beginStep] ++ cs1 ++ [.endStep], by simp only [List.append_assoc], ?_⟩
        rw [hnil, List.append_nil]
        exact Steps.last hd hws
      · cases inc
        · cases (h : ({ calls := _, err := some _ } : Result) = _)
        · obtain ⟨cs2, rfl, hs2⟩ := ih true a1.skipWs _ calls hnul' h
          exact ⟨[.beginStep] ++ cs1 ++ [.endStep] ++ cs2, by simp only [List.append_assoc], Steps.more hd hws nofun hnw (bne_iff_ne.mp hm) hs2⟩


theorem more_spec {a1 : AS} {ws rest : List Nat} (hr : a1.rest = ws ++ rest) (hws : Filler ws) (hnw : NWS rest) :
    more a1 = (rest.headD 0 != 0, a1.skipWs) ∧ a1.skipWs.rest = rest := by
  have hsk := skipWs_spec a1 ws rest hr hws hnw
  exact ⟨by rw [← hsk]; rfl, hsk⟩

theorem stepsLoop_complete : ∀ (inc : Bool) (w : List Nat) (cs : List Call), Steps true inc w cs → ∀ (f : Nat) (a : AS) (acc : List Call),
    w.length < f → a.rest = w → stepsLoop f inc a acc = { calls := acc ++ cs, err := none } := by
  intro inc w cs hs
  induction hs with
  | @last inc w ws cs hd hws =>
    intro f a acc hf hr
    obtain ⟨f, rfl⟩ := Nat.exists_eq_succ_of_ne_zero (Nat.ne_zero_of_lt hf)
    obtain ⟨a1, e1, r1⟩ := stepLoop_complete false w cs hd (a.rest.length + 1) a [] ws (by rw [hr, List.length_append]; omega) hr hws.nds
    have hm := (more_spec (r1.trans (List.append_nil _).symm) hws nofun).1
    rw [C04.stepsLoop_succ, e1]; dsimp only; rw [hm]
    show ({ calls := _, err := none } : Result) = _
    simp only [List.reverse_nil, List.nil_append, List.append_assoc]
  | @more w ws rest cs cs' hd hws hne hnw hh0 _ ih =>
    intro f a acc hf hr
    obtain ⟨f, rfl⟩ := Nat.exists_eq_succ_of_ne_zero (Nat.ne_zero_of_lt hf)
    obtain ⟨a1, e1, r1⟩ := stepLoop_complete false w cs hd (a.rest.length + 1) a [] (ws ++ rest) (by rw [hr, List.length_append]; omega) hr
      (Filler.nds_append hws (hne rfl) _)
    have ⟨hm, hsk⟩ := more_spec r1 hws hnw
    have hlen := dirs_pos hd
    rw [C04.stepsLoop_succ, e1]; dsimp only; rw [hm, bne_iff_ne.mpr hh0]
    show stepsLoop f true _ _ = _
    rw [ih f a1.skipWs _ (by rw [List.length_append, List.length_append] at hf; omega) hsk]
    simp only [List.reverse_nil, List.nil_append, List.append_assoc]

def kwAsp : List Nat := [97, 115, 112, 32]
def kwInc : List Nat := [105, 110, 99, 114, 101, 109, 101, 110, 116, 97, 108]

/-- the header without its line end: filler, `asp `, major version 1, minor version 0, a revision, blanks, optionally `incremental` -/
def headerL (s : Bool) : Lang Bool := fun w inc =>
  ∃ ws w1 w2 w3 sp rev, w = ws ++ (kwAsp ++ (w1 ++ (w2 ++ (w3 ++ (sp ++ (if inc then kwInc else [])))))) ∧ Filler ws ∧
    numN s false U32MAX w1 1 ∧ numN s true U32MAX w2 0 ∧ numN s true U32MAX w3 rev ∧ (∀ c ∈ sp, c = 32)

/-- the end of the header line: LF or CR LF (strict); a lone CR as well (lenient) -/
def IsEol (s : Bool) (eol : List Nat) : Prop := eol = [10] ∨ eol = [13, 10] ∨ (s = false ∧ eol = [13])

/-- **the aspif grammar**: header line, line end, steps -/
def Prog (s : Bool) (t : List Nat) (inc : Bool) (cs : List Call) : Prop :=
  ∃ wh eol wsteps, t = wh ++ (eol ++ wsteps) ∧ headerL s wh inc ∧ IsEol s eol ∧ Steps s inc wsteps cs

theorem matchTok_spec {a : AS} {w : List Nat} {b : Bool} {a' : AS} (h : a.matchTok w = (b, a')) : a.rest = (if b then w else []) ++ a'.rest := by
  rw [AS.matchTok] at h
  split at h <;> cases h
  · rename_i hp; exact (List.prefix_iff_eq_append.mp (List.isPrefixOf_iff_prefix.mp hp)).symm
  · rfl

theorem matchTok_inv (a : AS) (w : List Nat) (h : (a.matchTok w).1 = true) : a.rest = w ++ (a.matchTok w).2.rest := by
  have := matchTok_spec (b := (a.matchTok w).1) (a' := (a.matchTok w).2) rfl; rwa [h] at this

theorem matchTok_false (a : AS) (w : List Nat) (h : (a.matchTok w).1 = false) : (a.matchTok w).2.rest = a.rest := by
  have := matchTok_spec (b := (a.matchTok w).1) (a' := (a.matchTok w).2) rfl; rw [h] at this; exact this.symm

theorem matchTok_append {a : AS} {w r : List Nat} (h : a.rest = w ++ r) : a.matchTok w = (true, { a with rest := r, canUnget := true }) := by
  rw [AS.matchTok, h, if_pos (List.isPrefixOf_iff_prefix.mpr (List.prefix_append _ _)), List.drop_left]

theorem matchTok_head {a : AS} {c d : Nat} {w k : List Nat} (h : a.rest = c :: k) (hc : c ≠ d) : a.matchTok (d :: w) = (false, { a with canUnget := false }) := by
  rw [AS.matchTok, h, if_neg]
  rw [List.isPrefixOf_cons_cons, beq_eq_false_iff_ne.mpr hc.symm]; exact Bool.false_ne_true

theorem numN_lenient {lead lead' : Bool} {m : Nat} {w : List Nat} {n : Nat} (h : numN false lead m w n) : numN false lead' m w n := by
  obtain ⟨ws, sg, ds, ew, h1, h2, h3, h4, h5, _⟩ := h
  exact ⟨ws, sg, ds, ew, h1, h2, h3, h4, h5, nofun⟩

theorem hU32 : ((U32MAX : Nat) : Int) < I64MAX := by decide

theorem header_sound (a : AS) (inc : Bool) (a6 : AS) (h : header a = some (.ok (inc, a6))) : ∃ w, a.rest = w ++ a6.rest ∧ headerL false w inc := by
  unfold header at h
  extract_lets a0 at h
  split at h
  rename_i ok a1 hm
  cases ok with
  | false => cases h
  | true =>
    obtain ⟨⟨ma, a2⟩, h1, h⟩ := (C04.bind_ok _ _ _).mp (Option.some.inj h)
    obtain ⟨hma, h⟩ := C04.guard_ok h
    obtain ⟨⟨mi, a3⟩, h2, h⟩ := (C04.bind_ok _ _ _).mp h
    obtain ⟨hmi, h⟩ := C04.guard_ok h
    obtain ⟨⟨rev, a4⟩, h3, h⟩ := (C04.bind_ok _ _ _).mp h
    obtain ⟨ws, e0, hws⟩ := skipWs_inv a
    have em : a.skipWs.rest = kwAsp ++ a1.rest := matchTok_spec hm
    obtain ⟨w1, e1, l1⟩ := posMax_sound false U32MAX hU32 a1 ma a2 h1
    obtain ⟨w2, e2, l2⟩ := posMax_sound true U32MAX hU32 a2 mi a3 h2
    obtain ⟨w3, e3, l3⟩ := posMax_sound true U32MAX hU32 a3 rev a4 h3
    have e6 := matchTok_spec (Except.ok.inj h)
    obtain ⟨sp, e5, hsp⟩ : ∃ sp, a4.rest = sp ++ ((if inc then kwInc else []) ++ a6.rest) ∧ ∀ c ∈ sp, c = 32 :=
      ⟨_, List.takeWhile_append_dropWhile.symm.trans (congrArg (_ ++ ·) e6), fun c hc => beq_iff_eq.mp (BufferedStream.takeWhile_mem _ _ c hc)⟩
    rw [Decidable.of_not_not hma] at l1
    rw [Decidable.of_not_not hmi] at l2
    refine ⟨_, ?_, ws, w1, w2, w3, sp, rev, rfl, hws, l1, l2, l3, hsp⟩
    rw [e0, em, e1, e2, e3, e5]; simp only [List.append_assoc]

theorem header_of {a a1 a2 a3 a4 a6 : AS} {rev : Nat} {inc : Bool} (hm : a.skipWs.matchTok kwAsp = (true, a1)) (h1 : pos a1 = .ok (1, a2))
    (h2 : pos a2 = .ok (0, a3)) (h3 : pos a3 = .ok (rev, a4))
    (h6 : AS.matchTok { a4 with rest := a4.rest.dropWhile (· == 32) } kwInc = (inc, a6)) : header a = some (.ok (inc, a6)) := by
  unfold kwAsp at hm
  unfold kwInc at h6
  simp only [header, hm, h1, h2, h3, h6, bind, Except.bind, pure, Except.pure, ne_eq, not_true_eq_false, ↓reduceIte, Bool.not_true, Bool.false_eq_true]

theorem dropWhile_blanks (sp x : List Nat) (hsp : ∀ c ∈ sp, c = 32) (hx : x.headD 0 ≠ 32) : (sp ++ x).dropWhile (· == 32) = x := by
  rw [List.dropWhile_append_of_pos fun c hc => beq_iff_eq.mpr (hsp c hc)]
  cases x with
  | nil => rfl
  | cons c r => exact List.dropWhile_cons_of_neg (mt beq_iff_eq.mp hx)

theorem header_complete (a : AS) (w : List Nat) (inc : Bool) (k : List Nat) (hw : headerL true w inc) (hr : a.rest = w ++ k)
    (hk : ∃ c t, k = c :: t ∧ (c = 10 ∨ c = 13)) : ∃ a6, header a = some (.ok (inc, a6)) ∧ a6.rest = k := by
  obtain ⟨ws, w1, w2, w3, sp, rev, rfl, hws, l1, l2, l3, hsp⟩ := hw
  obtain ⟨kc, kt, rfl, hkc⟩ := hk
  obtain ⟨X, hX⟩ : ∃ X, X = (if inc then kwInc else []) ++ kc :: kt := ⟨_, rfl⟩
  -- what follows the blanks starts with `i` or with the line end
  have hX' : ∃ c t, X = c :: t ∧ c ≠ 32 ∧ isDigit c = false := by
    rw [hX]; cases inc
    · exact ⟨kc, kt, rfl, by rcases hkc with rfl | rfl <;> decide⟩
    · exact ⟨105, _, rfl, by decide⟩
  have hn3 : NDS (sp ++ X) := by
    cases sp with
    | nil => obtain ⟨c, t, rfl, _, hc⟩ := hX'; exact NDS_cons hc
    | cons y t => rw [hsp y List.mem_cons_self]; exact NDS_cons rfl
  have hs : a.skipWs.rest = kwAsp ++ (w1 ++ (w2 ++ (w3 ++ (sp ++ X)))) :=
    skipWs_spec a ws _ (by rw [hr, hX]; simp only [List.append_assoc]) hws (fun c r e => by cases e; rfl)
  obtain ⟨a2, e1, r1⟩ := posMax_complete false U32MAX hU32 w1 1 { a.skipWs with rest := w1 ++ (w2 ++ (w3 ++ (sp ++ X))), canUnget := true } _ l1 rfl (num_nds l2 _)
  obtain ⟨a3, e2, r2⟩ := posMax_complete true U32MAX hU32 w2 0 a2 _ l2 r1 (num_nds l3 _)
  obtain ⟨a4, e3, r3⟩ := posMax_complete true U32MAX hU32 w3 rev a3 _ l3 r2 hn3
  have hdw : a4.rest.dropWhile (· == 32) = X := by
    obtain ⟨c, t, rfl, hc, _⟩ := hX'; rw [r3]; exact dropWhile_blanks sp _ hsp hc
  obtain ⟨a6, h6, r6⟩ : ∃ a6, AS.matchTok { a4 with rest := a4.rest.dropWhile (· == 32) } kwInc = (inc, a6) ∧ a6.rest = kc :: kt := by
    rw [hdw, hX]; cases inc
    · exact ⟨_, matchTok_head rfl (by rcases hkc with rfl | rfl <;> decide), rfl⟩
    · exact ⟨_, matchTok_append rfl, rfl⟩
  exact ⟨a6, header_of (matchTok_append hs) e1 e2 e3 h6, r6⟩

theorem get_nl_inv (a : AS) (h : a.get.1 = 10) : ∃ eol, a.rest = eol ++ a.get.2.rest ∧ IsEol false eol := by
  rcases a.get_cases with ⟨_, h0, _⟩ | ⟨_, _, e | e | ⟨e, _⟩⟩ | ⟨_, _, _, h10, _⟩
  · rw [h0] at h; cases h
  · exact ⟨[10], e, .inl rfl⟩
  · exact ⟨[13, 10], e, .inr (.inl rfl)⟩
  · exact ⟨[13], e, .inr (.inr ⟨rfl, rfl⟩)⟩
  · exact absurd h h10

/-- **C03 (completeness)**: every strict aspif text — header line, then whitespace-separated tokens in ANY layout (any filler, `+`
    signs, leading zeros, digit strings of any length whose value fits the field), counts matched by their items, every number inside
    its field — is accepted, and the reader delivers exactly the directives the text denotes, in order (weight-0 literals omitted). -/
theorem C03_complete (t : List Nat) (inc : Bool) (cs : List Call) (h : Prog true t inc cs) :
    AspifIn.read t = { calls := .initProgram inc :: cs, err := none } := by
  obtain ⟨wh, eol, wsteps, rfl, hh, he, hs⟩ := h
  obtain ⟨crlf, rfl⟩ : ∃ crlf : Bool, eol = if crlf then [13, 10] else [10] := by
    rcases he with rfl | rfl | ⟨h, _⟩
    · exact ⟨false, rfl⟩
    · exact ⟨true, rfl⟩
    · cases h
  obtain ⟨a1, e1, r1⟩ := header_complete (AS.init _) wh inc ((if crlf then [13, 10] else [10]) ++ wsteps) hh rfl
    (by cases crlf; exact ⟨10, wsteps, rfl, .inl rfl⟩; exact ⟨13, 10 :: wsteps, rfl, .inr rfl⟩)
  have hsl := stepsLoop_complete inc wsteps cs hs (wsteps.length + 1) { rest := wsteps, line := a1.line + 1, canUnget := true } [.initProgram inc]
    (Nat.lt_succ_self _) rfl
  unfold AspifIn.read
  simp only [e1, get_eol crlf r1, ne_eq, not_true_eq_false, ↓reduceIte, hsl, List.singleton_append]

/-- **C03 (soundness)**: whatever the reader accepts (a text without NUL byte) is a text of the lenient grammar, and the directives it
    delivers are exactly those the text denotes: every delivered number is the number written (never wrapped or truncated), inside its
    field, every count is matched by the items that follow, in the order of the text. -/
theorem C03_sound (t : List Nat) (calls : List Call) (hnul : ∀ c ∈ t, c ≠ 0) (h : AspifIn.read t = { calls := calls, err := none }) :
    ∃ inc cs, calls = .initProgram inc :: cs ∧ Prog false t inc cs := by
  unfold AspifIn.read at h
  extract_lets a at h
  generalize hd : header a = r at h
  rcases r with _ | _ | ⟨inc, a1⟩
  · cases h
  · cases h
  · obtain ⟨wh, e1, hh⟩ := header_sound a inc a1 hd
    dsimp only at h
    split at h
    · cases h
    · rename_i hc
      obtain ⟨eol, e2, he⟩ := get_nl_inv a1 (Decidable.of_not_not hc)
      have et : t = wh ++ (eol ++ a1.get.2.rest) := e2 ▸ e1
      obtain ⟨cs, ec, hs⟩ := stepsLoop_sound _ inc a1.get.2 [.initProgram inc] calls
        (fun c hc' => hnul c (et ▸ List.mem_append_right _ (List.mem_append_right _ hc'))) h
      exact ⟨inc, cs, ec, wh, eol, a1.get.2.rest, et, hh, he, hs⟩

/-- everything outside the lenient grammar is rejected -/
theorem C03_rejects (t : List Nat) (hnul : ∀ c ∈ t, c ≠ 0) (hno : ∀ inc cs, ¬ Prog false t inc cs) : (AspifIn.read t).err ≠ none := by
  intro h
  obtain ⟨inc, cs, _, hp⟩ := C03_sound t (AspifIn.read t).calls hnul (by rw [← h])
  exact hno inc cs hp

/-- the strict grammar is inside the lenient one (for NUL-free texts), with the same denotation -/
theorem C03_strict_lenient (t : List Nat) (inc : Bool) (cs : List Call) (hnul : ∀ c ∈ t, c ≠ 0) (h : Prog true t inc cs) : Prog false t inc cs := by
  obtain ⟨_, _, e, hp⟩ := C03_sound t _ hnul (C03_complete t inc cs h)
  cases e; exact hp

/-! ### non-vacuity: `asp 1 0 0␤1 0 1 1 0 0␤0␤` is a strict program text denoting one fact -/
theorem tokB (lead : Bool) (lo hi : Int) (d : Nat) (hd : isDigit d = true) (hlo : lo ≤ denoted .none [d]) (hhi : denoted .none [d] ≤ hi) :
    num true lead lo hi [32, d] (denoted .none [d]) :=
  ⟨[32], .none, [d], rfl, .of_all rfl, .single hd, rfl, hlo, hhi, fun _ _ => .inl (List.cons_ne_nil _ _)⟩

def exText : List Nat := [97, 115, 112, 32, 49, 32, 48, 32, 48, 10, 49, 32, 48, 32, 49, 32, 49, 32, 48, 32, 48, 10, 48, 10]

example : Prog true exText false [.beginStep, .rule 0 [1] [], .endStep] := by
  -- a bare `1` at the start of a line, and ` 0`
  have one : ∀ m, 1 ≤ m → numN true false m (AspifOut.printNat 1) 1 := fun m h => num_printNat false 0 m 1 ⟨by decide, Int.ofNat_le.mpr h⟩ [] .nil nofun
  have z : ∀ m, numN true true m (AspifOut.addN 0) 0 := fun m => numN_addN (Nat.zero_le m)
  refine ⟨_, [10], ?w, ?e, ⟨[], _, _, _, [], 0, rfl, .nil, one _ (by decide), z _, z _, nofun⟩, .inl rfl, ?s⟩
  case s =>
    exact Steps.last (ws := [10]) (Dirs.dir (rt := 1) (one _ (by decide)) (by decide)
      (seq_intro (z _) (seq_intro (atomsL_addNats (l := [1]) (by unfold AspifRT.lenOk; decide) (by unfold AspifRT.atomOk; decide))
        (seq_intro (numN_addI (v := 0) (by decide)) (seq_ret _ (litsL_addLits (l := []) (by unfold AspifRT.lenOk; decide) nofun)))))
      (Dirs.done (num_printNat true 0 _ 0 (by decide) [10] (.of_all rfl) fun _ => List.cons_ne_nil _ _))) (.of_all rfl)
  case e => rfl

example : AspifIn.read exText = { calls := [.initProgram false, .beginStep, .rule 0 [1] [], .endStep], err := none } := by decide +kernel

end PotasscoVerif.C03
