/-
  C11 (continued) — several builders with copy construction / assignment and swap between them.
  The model is a list of builder states; `assign i j` makes builder `j` a copy of builder `i` (`mem_.grow(top); memcpy`),
  `swap i j` exchanges two builders.
-/
import PotasscoVerif.Props.C11
namespace PotasscoVerif.C11
open PotasscoVerif.RuleBuilder PotasscoVerif.RuleSpec

inductive MOp where
  | on (i : Nat) (op : Op)
  | assign (i j : Nat)          -- b[j] = b[i]  /  b[j] := RuleBuilder(b[i])
  | swap (i j : Nat)

def mstepC (bs : List RB) : MOp → Option (List RB)
  | .on i op => match bs[i]? with
    | some c => (stepC c op).map (fun c' => bs.set i c')
    | none => none
  | .assign i j => match bs[i]? with
    | some c => if j < bs.length then some (bs.set j c.copy) else none
    | none => none
  | .swap i j => match bs[i]?, bs[j]? with
    | some x, some y => some ((bs.set i y).set j x)
    | _, _ => none

def mstepA (bs : List AR) : MOp → Option (List AR)
  | .on i op => match bs[i]? with
    | some a => (stepA a op).map (fun a' => bs.set i a')
    | none => none
  | .assign i j => match bs[i]? with
    | some a => if j < bs.length then some (bs.set j a) else none
    | none => none
  | .swap i j => match bs[i]?, bs[j]? with
    | some x, some y => some ((bs.set i y).set j x)
    | _, _ => none

def mrunC : List RB → List MOp → Option (List RB)
  | bs, [] => some bs
  | bs, op :: ops => (mstepC bs op).bind (fun bs' => mrunC bs' ops)

def mrunA : List AR → List MOp → Option (List AR)
  | bs, [] => some bs
  | bs, op :: ops => (mstepA bs op).bind (fun bs' => mrunA bs' ops)

def MR (cs : List RB) (as : List AR) : Prop := cs.length = as.length ∧ ∀ i (h1 : i < cs.length) (h2 : i < as.length), R cs[i] as[i]

theorem MR.set {cs : List RB} {as : List AR} (h : MR cs as) (i : Nat) (c : RB) (a : AR) (hr : R c a) : MR (cs.set i c) (as.set i a) := by
  refine ⟨by simp [h.1], ?_⟩
  intro j h1 h2
  simp only [List.length_set] at h1 h2
  rw [List.getElem_set, List.getElem_set]
  by_cases hij : i = j
  · simp [hij, hr]
  · simp only [hij, ↓reduceIte]; exact h.2 j h1 h2

theorem MR.get {cs : List RB} {as : List AR} (h : MR cs as) (i : Nat) (a : AR) (ha : as[i]? = some a) : ∃ c, cs[i]? = some c ∧ R c a := by
  obtain ⟨hi, rfl⟩ := List.getElem?_eq_some_iff.mp ha
  exact ⟨cs[i]'(h.1 ▸ hi), List.getElem?_eq_getElem _, h.2 i _ hi⟩

theorem mstep_ref {cs : List RB} {as as' : List AR} (h : MR cs as) (op : MOp) (hs : mstepA as op = some as') :
    ∃ cs', mstepC cs op = some cs' ∧ MR cs' as' := by
  cases op with
  | on i o =>
    rw [mstepA] at hs
    split at hs
    · next a hai =>
      obtain ⟨a1, hst, rfl⟩ := Option.map_eq_some_iff.mp hs
      obtain ⟨c, hc, hr⟩ := h.get i a hai
      obtain ⟨c1, hc1, hr1⟩ := step_ref hr o hst
      exact ⟨cs.set i c1, by simp only [mstepC, hc, hc1, Option.map_some], h.set i c1 a1 hr1⟩
    · cases hs
  | assign i j =>
    rw [mstepA] at hs
    split at hs
    · next a hai =>
      obtain ⟨hj, hs⟩ := Option.ite_none_right_eq_some.mp hs
      cases hs
      obtain ⟨c, hc, hr⟩ := h.get i a hai
      exact ⟨cs.set j c.copy, by simp only [mstepC, hc, if_pos (h.1 ▸ hj)], h.set j c.copy a (copy_ref hr)⟩
    · cases hs
  | swap i j =>
    rw [mstepA] at hs
    split at hs
    · next x y hai haj =>
      cases hs
      obtain ⟨cx, hcx, hrx⟩ := h.get i x hai
      obtain ⟨cy, hcy, hry⟩ := h.get j y haj
      exact ⟨(cs.set i cy).set j cx, by rw [mstepC, hcx, hcy], (h.set i cy y hry).set j cx x hrx⟩
    · cases hs

theorem mrun_ref : ∀ (ops : List MOp) {cs : List RB} {as as' : List AR}, MR cs as → mrunA as ops = some as' →
    ∃ cs', mrunC cs ops = some cs' ∧ MR cs' as' := by
  intro ops
  induction ops with
  | nil => intro cs as as' h hs; cases hs; exact ⟨cs, rfl, h⟩
  | cons op ops ih =>
    intro cs as as' h hs
    obtain ⟨a1, hst, hs⟩ := Option.bind_eq_some_iff.mp hs
    obtain ⟨c1, hc1, h1⟩ := mstep_ref h op hst
    obtain ⟨c', hc', h'⟩ := ih h1 hs
    exact ⟨c', by rw [mrunC, hc1]; exact hc', h'⟩

theorem MR_init (k n : Nat) : MR (List.replicate k (initN n)) (List.replicate k AR.init) := by
  refine ⟨by simp, ?_⟩
  intro i h1 h2
  simp only [List.getElem_replicate]
  exact R_initN n

/-- **C11 (several builders)**: after ANY history of per-builder operations, assignments / copy constructions and swaps over `k`
    builders that the specification accepts, EVERY builder reports exactly the rule of its own specification state, without an
    assertion and without an access outside its block.  In the specification an assignment copies a value and a swap exchanges two
    values: so a copy carries the complete rule, and operations on one builder never show in another. -/
theorem C11_multi (k n : Nat) (ops : List MOp) (as' : List AR) (hs : mrunA (List.replicate k AR.init) ops = some as') :
    ∃ cs', mrunC (List.replicate k (initN n)) ops = some cs' ∧ cs'.length = as'.length ∧
      ∀ i (h1 : i < cs'.length) (h2 : i < as'.length), cs'[i].view = as'[i].view ∧ cs'[i].viewOk = true ∧ cs'[i].viol = false := by
  obtain ⟨cs', hc, hr⟩ := mrun_ref ops (MR_init k n) hs
  refine ⟨cs', hc, hr.1, ?_⟩
  intro i h1 h2
  have := hr.2 i h1 h2
  exact ⟨(view_ref this).1, (view_ref this).2, this.noviol⟩

/-! non-vacuity: three builders; a weakened sum is assigned, the copy is changed, the original is swapped away -/
example : (mrunA (List.replicate 3 AR.init)
    [.on 0 (.startSum 3), .on 0 (.addGoal 1 2), .on 0 (.addGoal (-2) 2), .on 0 (.start 1), .on 0 (.addHead 7), .on 0 (.weaken 2 true),
     .assign 0 1, .on 1 (.addHead 8), .swap 0 2, .on 2 (.clearBody)]).map (fun l => l.map AR.view) =
    some [{ ht := 0, head := [], bt := 0, bound := -1, body := [] },
          { ht := 1, head := [7, 8], bt := 2, bound := 2, body := [(1, 1), (-2, 1)] },
          { ht := 1, head := [7], bt := 0, bound := -1, body := [] }] := by decide +kernel

end PotasscoVerif.C11
