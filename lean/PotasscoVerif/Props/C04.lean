/-
  C04 — readers are total and respect the consumer contract on arbitrary input.
  Theorems about the three reader models (Model/AspifIn.lean, Model/SmodelsSym.lean with Model/SmodelsIn.lean, Model/TextIn.lean), for
  EVERY byte string: every call delivered is admissible and the calls run the contract automaton (Lemmas/Contract.lean).  The models are
  tied to the C++ readers by the `ar` / `so` / `tr` correspondences; totality is their being Lean functions with fuel ≥ the input length.
-/
import PotasscoVerif.Props.C04Aspif
import PotasscoVerif.Props.C04Smodels
import PotasscoVerif.Props.C04Text
namespace PotasscoVerif.C04
open PotasscoVerif PotasscoVerif.CharStream
open PotasscoVerif.AspifIn (P Result)

example : run 0 (AspifIn.read [97, 115, 112, 32, 49, 32, 48, 32, 48, 10, 49, 32, 48, 32, 49, 32, 49, 32, 48, 32, 48, 10, 48, 10]).calls = some 1 := by decide +kernel
example : (TextIn.read [97, 32, 58, 45, 32, 50, 123, 98, 61, 45, 49, 125, 46]).err = some 1 := by decide +kernel
end PotasscoVerif.C04
