/-
  C08 — heuristic, edge and external directives survive the trip through smodels format.
  Theorems tying the texts written by Model/Convert.lean to the matchers of Model/SmodelsSym.lean
  (both tied to the C++ by the `cv` / `so` correspondences).
-/
import PotasscoVerif.Model.SmodelsSym
import PotasscoVerif.Model.Convert
import PotasscoVerif.Props.C16
namespace PotasscoVerif.C08
open PotasscoVerif PotasscoVerif.SmodelsSym PotasscoVerif.Decimal
open PotasscoVerif.AspifOut (printInt printNat)
open PotasscoVerif.BufferedStream (isDigit)

/-- a plain predicate argument: no parenthesis, comma or quote -/
def ArgSafe (n : List Nat) : Prop := ∀ c ∈ n, c ≠ 40 ∧ c ≠ 41 ∧ c ≠ 44 ∧ c ≠ 34

theorem argScan_safe (name : List Nat) (h : ArgSafe name) (f : Nat) (hf : name.length < f) (t : Nat) (ht : t = 44 ∨ t = 41) (rest acc : List Nat) :
    argScan f (name ++ t :: rest) 0 false false acc = some (acc ++ name, t :: rest) := by
  induction name generalizing f acc with
  | nil =>
    cases f with
    | zero => simp at hf
    | succ f =>
      rcases ht with ht | ht <;> subst ht <;> simp [argScan]
  | cons c r ih =>
    cases f with
    | zero => simp at hf
    | succ f =>
      obtain ⟨h40, h41, h44, h34⟩ := h c List.mem_cons_self
      simp only [List.cons_append, argScan, Bool.false_eq_true, ↓reduceIte, beq_eq_false_iff_ne.mpr h40, beq_eq_false_iff_ne.mpr h41,
        beq_eq_false_iff_ne.mpr h44, beq_eq_false_iff_ne.mpr h34]
      rw [ih (fun x hx => h x (List.mem_cons_of_mem _ hx)) f (Nat.lt_of_succ_lt_succ hf), List.append_assoc]; rfl

theorem atomArg_safe (name : List Nat) (h : ArgSafe name) (hne : name ≠ []) (t : Nat) (ht : t = 44 ∨ t = 41) (rest : List Nat) :
    atomArg (name ++ t :: rest) = (true, name, t :: rest) := by
  unfold atomArg
  rw [argScan_safe name h _ (by simp; omega) t ht rest []]
  cases name with
  | nil => exact absurd rfl hne
  | cons c r => simp

/-- the modifier names of reader and converter, byte for byte -/
theorem heuNames_eq : heuNames = [[108, 101, 118, 101, 108], [115, 105, 103, 110], [102, 97, 99, 116, 111, 114], [105, 110, 105, 116],
    [116, 114, 117, 101], [102, 97, 108, 115, 101]] ∧ ∀ t < 6, Convert.heuName t = heuNames.getD t [] := by decide +kernel

theorem heuType_name (t : Nat) (ht : t < 6) (rest : List Nat) : heuType heuNames 0 (Convert.heuName t ++ 44 :: rest) = some (t, 44 :: rest) := by
  rw [heuNames_eq.2 t ht, heuNames_eq.1]
  have : t = 0 ∨ t = 1 ∨ t = 2 ∨ t = 3 ∨ t = 4 ∨ t = 5 := by omega
  rcases this with h | h | h | h | h | h <;> subst h <;> rfl

theorem cInt_printInt (v : Int) (hv : -2147483648 ≤ v ∧ v ≤ 2147483647) (k : List Nat) (hk : NDS k) : cInt (printInt v ++ k) = some (v, k) := by
  unfold cInt
  rw [printInt_eq, List.append_assoc, C16.strto_decimal _ _ k (printNat_digits _) (printNat_ne_nil _) hk, val_printNat]
  have hlen : ¬ ((if v < 0 then Sign.minus else Sign.none).text.length + (printNat v.natAbs).length = 0) := by
    have := List.length_pos_iff.mpr (printNat_ne_nil v.natAbs); omega
  have hval : (if decide ((if v < 0 then Sign.minus else Sign.none) = .minus) = true then -(v.natAbs : Int) else v.natAbs) = v := by
    by_cases h : v < 0
    · rw [if_pos h, if_pos (decide_eq_true rfl)]; omega
    · rw [if_neg h, if_neg (by decide)]; omega
  simp only [hval, beq_iff_eq, hlen, false_or, show ¬ (v < -2147483648 ∨ v > 2147483647) by omega, ↓reduceIte]
  rw [← List.append_assoc, List.drop_left' List.length_append]

theorem eat_append (w r : List Nat) : eat w (w ++ r) = (true, r) := by simp [eat]
theorem eat_singleton (c : Nat) (r : List Nat) : eat [c] (c :: r) = (true, r) := eat_append [c] r
theorem eat_false (w inp : List Nat) (h : w.isPrefixOf inp = false) : eat w inp = (false, inp) := by simp [eat, h]

/-- for `s` of a string literal: `rw` with this instead of unfolding `s`, so that the UTF-8 decoder of `String.toList` is not evaluated -/
theorem s_ofList (l : List Char) : s (String.ofList l) = l.map Char.toNat := by simp [s]

/-- the three helper prefixes differ in their second character -/
theorem prefixes_distinct (r : List Nat) : (s "_acyc_").isPrefixOf (s "_edge(" ++ r) = false ∧ (s "_acyc_").isPrefixOf (s "_heuristic(" ++ r) = false ∧
    (s "_edge(").isPrefixOf (s "_heuristic(" ++ r) = false := by
  rw [s_ofList, s_ofList, s_ofList]
  exact ⟨rfl, rfl, rfl⟩

/-- the text `SmodelsConvert::flushHeuristic` writes -/
def heuText (name : List Nat) (t : Nat) (bias : Int) (prio : Nat) : List Nat :=
  Convert.s "_heuristic(" ++ name ++ [44] ++ Convert.heuName t ++ [44] ++ printInt bias ++ [44] ++ printNat prio ++ [41]

/-- **C08 (heuristic predicate)**: for every plain target name, every modifier, every bias in the int range (INT_MIN
    included) and every priority up to 2^31−1, the text the converter writes is recognised by `matchDomHeuPred` and gives
    back exactly name, modifier, bias and priority, with nothing left over. -/
theorem C08_heuristic_text_roundtrip (name : List Nat) (hn : ArgSafe name) (hne : name ≠ []) (t : Nat) (ht : t < 6)
    (bias : Int) (hb : -2147483648 ≤ bias ∧ bias ≤ 2147483647) (prio : Nat) (hp : prio ≤ 2147483647) :
    domHeuPred (heuText name t bias prio) = (1, name, t, bias, prio, []) := by
  have e0 : heuText name t bias prio =
      s "_heuristic(" ++ (name ++ 44 :: (Convert.heuName t ++ 44 :: (printInt bias ++ 44 :: (printInt (prio : Int) ++ [41])))) := by
    simp only [heuText, printInt_nat, List.append_assoc, List.cons_append, List.nil_append]; rfl
  unfold domHeuPred
  simp only [e0, eat_append, atomArg_safe name hn hne 44 (Or.inl rfl), eat_singleton, heuType_name t ht,
    cInt_printInt bias hb _ (NDS_cons (c := 44) rfl), cInt_printInt (prio : Int) (by omega) _ (NDS_cons (c := 41) rfl),
    Bool.not_true, Bool.false_eq_true, ↓reduceIte, show ¬ ((prio : Int) < 0) by omega, Int.toNat_natCast]

/-- the text `SmodelsConvert::acycEdge` writes -/
def edgeText (a b : Int) : List Nat := Convert.s "_edge(" ++ printInt a ++ [44] ++ printInt b ++ [41]

theorem printInt_argSafe (v : Int) : ArgSafe (printInt v) ∧ printInt v ≠ [] := by
  rw [printInt_eq]
  refine ⟨fun c hc => ?_, fun h => printNat_ne_nil _ (List.append_eq_nil_iff.mp h).2⟩
  rcases List.mem_append.mp hc with hc | hc
  · split at hc
    · cases List.mem_singleton.mp hc; decide
    · cases hc
  · have := printNat_digits _ c hc
    simp [isDigit] at this; omega

/-- **C08 (edge predicate)**: `_edge(s,t)` as written by the converter is recognised by `matchEdgePred` and gives back the
    decimal texts of both node numbers (negative ones included). -/
theorem C08_edge_text_roundtrip (a b : Int) : edgePred (edgeText a b) = (1, printInt a, printInt b, []) := by
  have e0 : edgeText a b = s "_edge(" ++ (printInt a ++ 44 :: (printInt b ++ [41])) := by
    simp only [edgeText, List.append_assoc, List.cons_append, List.nil_append]; rfl
  unfold edgePred
  simp only [e0, eat_false _ _ (prefixes_distinct _).1, eat_append, atomArg_safe _ (printInt_argSafe a).1 (printInt_argSafe a).2 44 (Or.inl rfl), eat_singleton,
    atomArg_safe _ (printInt_argSafe b).1 (printInt_argSafe b).2 41 (Or.inr rfl),
    Bool.not_false, ↓reduceIte, Bool.not_true, Bool.false_eq_true, bind, Option.bind]

theorem idxOf?_eq (n : List Nat) (l : List (List Nat)) (i : Nat) : idxOf? n l i = if n ∈ l then some (i + l.idxOf n) else none := by
  induction l generalizing i with
  | nil => rfl
  | cons x r ih =>
    rw [idxOf?, List.idxOf_cons, ih]
    by_cases hx : x = n
    · simp [hx]
    · have : (x == n) = false := by simpa using hx
      simp only [this, Bool.false_eq_true, ↓reduceIte, List.mem_cons, Ne.symm hx, false_or, cond_false]
      split <;> simp <;> omega

theorem addNode_eq (t : Tabs) (n : List Nat) :
    t.addNode n = if n ∈ t.nodes then (t, t.nodes.idxOf n) else ({ t with nodes := t.nodes ++ [n] }, t.nodes.length) := by
  by_cases h : n ∈ t.nodes <;> simp [Tabs.addNode, idxOf?_eq, h]

theorem addNode_spec (t : Tabs) (n : List Nat) (hnd : t.nodes.Nodup) :
    (t.addNode n).1.nodes[(t.addNode n).2]? = some n ∧ t.nodes <+: (t.addNode n).1.nodes ∧ (t.addNode n).1.nodes.Nodup := by
  rw [addNode_eq]
  split
  · rename_i hm
    exact ⟨by rw [List.getElem?_eq_getElem (List.idxOf_lt_length_of_mem hm), List.getElem_idxOf], List.prefix_refl _, hnd⟩
  · rename_i hn
    refine ⟨by simp, by simp, ?_⟩
    rw [List.nodup_append]; exact ⟨hnd, by simp, fun a ha b hb => by simp at hb; subst hb; intro e; subst e; exact hn ha⟩

/-- **C08 (node renaming is injective)**: two node names get the same number iff they are the same name — the numbers the
    reader assigns to graph nodes are a renaming, never a merge; and a number once given is kept. -/
theorem C08_nodes_injective (t : Tabs) (n m : List Nat) (hnd : t.nodes.Nodup) :
    ((t.addNode n).2 = ((t.addNode n).1.addNode m).2 ↔ n = m) ∧ ((t.addNode n).1.addNode m).1.nodes.Nodup := by
  have h1 := addNode_spec t n hnd
  have h2 := addNode_spec (t.addNode n).1 m h1.2.2
  refine ⟨⟨?_, ?_⟩, h2.2.2⟩
  · intro e
    have a1 := h1.1
    have a2 := h2.1
    rw [← e] at a2
    obtain ⟨suffix, hs⟩ := h2.2.1
    rw [← hs] at a2
    have hlt : (t.addNode n).2 < (t.addNode n).1.nodes.length := (List.getElem?_eq_some_iff.mp a1).1
    rw [List.getElem?_append_left hlt, a1] at a2
    exact Option.some.inj a2
  · intro e
    subst e
    -- the second lookup finds the name where the first one put it
    have a1 := h1.1
    have hnd1 := h1.2.2
    generalize (t.addNode n).1 = t1 at *
    generalize (t.addNode n).2 = i at *
    obtain ⟨hlt, rfl⟩ := List.getElem?_eq_some_iff.mp a1
    rw [addNode_eq, if_pos (List.getElem_mem hlt)]
    exact (hnd1.idxOf_getElem i hlt).symm

def isOutput : Call → Bool
  | .output .. => true
  | _ => false

/-- `SymTab::add`: the first atom recorded under a name stays -/
def remember (t : Tabs) (name : List Nat) (x : Nat) : Tabs :=
  match t.atoms with
  | some m => { t with atoms := some (if m.any (fun p => p.1 == name) then m else m ++ [(name, x)]) }
  | none => t

theorem record_eq (r : Tabs × List Call × List Heu × Bool) (atom : Nat) (name : List Nat) :
    record r atom name = (remember r.1 name atom, r.2.1 ++ (if r.2.2.2 then [] else [.output name [(atom : Int)]]), r.2.2.1) := by
  unfold record remember; cases r.1.atoms <;> cases r.2.2.2 <;> rfl

theorem recognise_hidden (o : Opts) (t : Tabs) (atom : Nat) (name : List Nat) (doms : List Heu) :
    (recognise o t atom name doms).2.1.filter isOutput = [] ∧
    (recognise o t atom name doms).2.2.2 = (o.filter && ((o.cEdge && decide (0 < (edgePred name).1)) ||
      (o.cHeu && decide (0 < (domHeuPred (if o.cEdge then (edgePred name).2.2.2 else name)).1)))) := by
  unfold recognise
  generalize edgePred name = e
  cases o.cEdge <;> cases o.cHeu <;>
    simp only [Bool.false_and, Bool.true_and, Bool.false_eq_true, ↓reduceIte, Bool.false_or, Bool.or_false, Bool.and_false]
  · exact ⟨rfl, trivial⟩
  · cases decide (0 < (domHeuPred name).1) <;> exact ⟨rfl, by simp⟩
  · cases decide (0 < e.1) <;> exact ⟨rfl, by simp⟩
  · cases decide (0 < e.1) <;> cases decide (0 < (domHeuPred e.2.2.2).1) <;> exact ⟨rfl, by simp⟩

/-- **C08 (filtering)**: with `dropConverted`, a symbol recognised as `_edge`/`_acyc_` (edges converted) or as
    `_heuristic` (heuristics converted) produces no output directive; every other symbol — and every symbol when filtering
    is off — produces exactly one, with its own name and atom. -/
theorem C08_filter_hides (o : Opts) (t : Tabs) (atom : Nat) (name : List Nat) (doms : List Heu) :
    let recognised := (o.cEdge && decide (0 < (edgePred name).1)) ||
      (o.cHeu && decide (0 < (domHeuPred (if o.cEdge then (edgePred name).2.2.2 else name)).1))
    ((symbol o t atom name doms).2.1.filter isOutput) = if o.filter && recognised then [] else [.output name [(atom : Int)]] := by
  intro recognised
  obtain ⟨h1, h2⟩ := recognise_hidden o t atom name doms
  rw [symbol, record_eq, List.filter_append, h1, h2]
  cases o.filter && recognised <;> rfl
end PotasscoVerif.C08
