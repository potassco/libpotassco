/-
  C16 — string <-> value conversion round-trips and rejects what does not fit.

  Model: Model/StringConvert.lean (`strto` = the assumed contract of strtoll/strtoull).  A type is given by its range
  `lo`/`hi` or `uMax`, which lies inside 64 bit (int, long, long long, unsigned, unsigned long, unsigned long long).
  All acceptance theorems go through one description of `strto` on sign, prefix, digit string in a base, non-digit
  (`strto_run`) and one of each conversion on a text `strto` reads (`parseSigned_strto`, `parseUnsigned_strto`).
  Hexadecimal/octal texts and keywords: C16b; pairs and lists: C16c; enumerations: C16d.
-/
import PotasscoVerif.Model.StringConvert
import PotasscoVerif.Lemmas.Decimal
namespace PotasscoVerif.C16
open PotasscoVerif.StringConvert PotasscoVerif.AspifOut PotasscoVerif.Decimal PotasscoVerif.CharStream
open PotasscoVerif.BufferedStream (isDigit toDigit)

def valB (base : Nat) : List Nat → Nat → Nat
  | [], acc => acc
  | c :: r, acc => valB base r (acc * base + (digitOf base c).getD 0)

def NoDig (base : Nat) (k : List Nat) : Prop := ∀ c r, k = c :: r → digitOf base c = none

theorem digitsB_append (base : Nat) : ∀ (ds k : List Nat) (acc cnt : Nat), (∀ c ∈ ds, (digitOf base c).isSome = true) → NoDig base k →
    digitsB base (ds ++ k) acc cnt = (valB base ds acc, cnt + ds.length, k) := by
  intro ds
  induction ds with
  | nil =>
    intro k acc cnt _ hk
    cases k with
    | nil => rfl
    | cons c r => simp only [List.nil_append, digitsB, hk c r rfl]; rfl
  | cons d ds ih =>
    intro k acc cnt hd hk
    obtain ⟨v, hv⟩ := Option.isSome_iff_exists.mp (hd d List.mem_cons_self)
    simp only [List.cons_append, digitsB, hv, valB, Option.getD_some, List.length_cons]
    rw [ih k _ _ (fun c hc => hd c (List.mem_cons_of_mem _ hc)) hk, Nat.add_right_comm, Nat.add_assoc]

theorem splitSign_of_ne {c : Nat} (r : List Nat) (h1 : c ≠ 45) (h2 : c ≠ 43) : splitSign (c :: r) = (false, 0, c :: r) := by
  unfold splitSign
  split
  · exact absurd (List.cons.inj ‹_›).1 h1
  · exact absurd (List.cons.inj ‹_›).1 h2
  · rfl

theorem strto_run (base : Nat) (x y ds k : List Nat) (neg : Bool) (ns np : Nat)
    (hsp : ∀ c r, x = c :: r → isSpace c = false) (hsign : splitSign x = (neg, ns, y))
    (hpre : splitPrefix base y = (np, ds ++ k)) (hds : ∀ c ∈ ds, (digitOf base c).isSome = true) (hne : ds ≠ [])
    (hk : NoDig base k) : strto x base = { neg := neg, mag := valB base ds 0, used := ns + np + ds.length } := by
  have hws : x.takeWhile isSpace = [] := by
    cases x with
    | nil => rfl
    | cons c r => rw [List.takeWhile_cons, hsp c r rfl]; rfl
  have hlen : (ds.length == 0) = false := by
    cases ds with
    | nil => exact absurd rfl hne
    | cons => rfl
  unfold strto
  simp only [hws, List.length_nil, List.drop_zero, hsign, hpre, digitsB_append base ds k 0 0 hds hk, Nat.zero_add, hlen,
    Bool.false_eq_true, ↓reduceIte]

theorem digitOf10 (c : Nat) : digitOf 10 c = if isDigit c then some (toDigit c) else none := by
  unfold digitOf isDigit toDigit
  by_cases h1 : 48 ≤ c ∧ c ≤ 57
  · have : c - 48 < 10 := Nat.sub_lt_left_of_lt_add h1.1 (Nat.lt_succ_of_le h1.2)
    simp only [h1, and_self, ↓reduceIte, this, decide_true, Bool.and_self]
  · have h2 : (decide (48 ≤ c) && decide (c ≤ 57)) = false := by simpa using h1
    rw [if_neg h1, h2]
    by_cases h2 : 97 ≤ c ∧ c ≤ 122
    · have : ¬c - 87 < 10 := Nat.not_lt.mpr (Nat.le_sub_of_add_le (show 10 + 87 ≤ c from h2.1))
      simp only [h2, and_self, ↓reduceIte, this, Bool.false_eq_true]
    · by_cases h3 : 65 ≤ c ∧ c ≤ 90
      · have : ¬c - 55 < 10 := Nat.not_lt.mpr (Nat.le_sub_of_add_le (show 10 + 55 ≤ c from h3.1))
        simp only [h2, h3, and_self, ↓reduceIte, this, Bool.false_eq_true]
      · simp only [h2, h3, ↓reduceIte, Bool.false_eq_true]

theorem isSome_of_isDigit {c : Nat} (h : isDigit c = true) : (digitOf 10 c).isSome = true := by
  rw [digitOf10, if_pos h]; rfl

theorem noDig_of_nds {k : List Nat} (h : NDS k) : NoDig 10 k := fun c r e => by rw [digitOf10, h c r e]; rfl

theorem valB_ten : ∀ (ds : List Nat) (acc : Nat), (∀ c ∈ ds, isDigit c = true) → valB 10 ds acc = val ds acc
  | [], _, _ => rfl
  | d :: ds, acc, h => by
    rw [valB, val, digitOf10, if_pos (h d List.mem_cons_self)]
    exact valB_ten ds _ fun c hc => h c (List.mem_cons_of_mem _ hc)

theorem ne_of_isDigit {d c : Nat} (hd : isDigit d = true) (hc : isDigit c = false) : d ≠ c :=
  fun e => Bool.false_ne_true (hc.symm.trans (e ▸ hd))

theorem isSpace_of_isDigit {d : Nat} (h : isDigit d = true) : isSpace d = false := by
  have hd : 13 < d := Nat.lt_of_lt_of_le (by decide) (BufferedStream.isDigit_range h).1
  rw [isSpace, beq_false_of_ne (ne_of_isDigit h rfl), Bool.false_or, decide_eq_false (Nat.not_le.mpr hd), Bool.and_false]

theorem splitPrefix10 (x : List Nat) : splitPrefix 10 x = (0, x) := by
  unfold splitPrefix; split <;> rfl

theorem strto_decimal (sg : Sign) (ds k : List Nat) (hds : ∀ c ∈ ds, isDigit c = true) (hne : ds ≠ []) (hk : NDS k) :
    strto (sg.text ++ (ds ++ k)) 10 =
      { neg := sg = .minus, mag := val ds 0, used := sg.text.length + ds.length } := by
  obtain ⟨d, r, rfl⟩ := List.exists_cons_of_ne_nil hne
  have hd := hds d List.mem_cons_self
  rw [← valB_ten _ 0 hds]
  refine strto_run 10 _ (d :: r ++ k) (d :: r) k _ _ 0 ?_ ?_ (splitPrefix10 _) (fun c hc => isSome_of_isDigit (hds c hc)) hne
    (noDig_of_nds hk)
  · cases sg <;> intro c r' e <;> cases e <;> first | exact isSpace_of_isDigit hd | rfl
  · cases sg
    · exact splitSign_of_ne _ (ne_of_isDigit hd rfl) (ne_of_isDigit hd rfl)
    · rfl
    · rfl

theorem startsWith_ne (c0 : Nat) (r0 : List Nat) (p0 : Nat) (p : List Nat) (h : p0 ≠ c0) : startsWith (c0 :: r0) (p0 :: p) = false := by
  unfold startsWith; rw [List.isPrefixOf, beq_false_of_ne h]; rfl

theorem parseSigned_strto (c : Nat) (r : List Nat) (lo hi : Int) (hlo : LLMIN ≤ lo) (hhi : hi ≤ LLMAX) (hc : c ≠ 105)
    {base : Nat} (hb : detectBase (c :: r) = base) (s : Strto) (hs : strto (c :: r) base = s) (hu : s.used ≠ 0) :
    parseSigned (c :: r) lo hi =
      (if lo ≤ (if s.neg then -(s.mag : Int) else s.mag) ∧ (if s.neg then -(s.mag : Int) else s.mag) ≤ hi
        then some ((if s.neg then -(s.mag : Int) else s.mag), s.used) else none) := by
  unfold parseSigned
  simp only [List.isEmpty_cons, Bool.false_eq_true, ↓reduceIte, startsWith_ne c r 105 _ (Ne.symm hc), Bool.false_and, hb, hs,
    beq_false_of_ne hu, false_or]
  generalize (if s.neg then -(s.mag : Int) else s.mag) = V
  by_cases hin : lo ≤ V ∧ V ≤ hi
  · rw [if_neg fun hc => hc.elim (Int.not_lt.mpr (Int.le_trans hlo hin.1)) (Int.not_lt.mpr (Int.le_trans hin.2 hhi)),
      if_neg fun hc => hc.elim (Int.not_lt.mpr hin.1) (Int.not_lt.mpr hin.2), if_pos hin]
  · rw [if_neg hin]
    by_cases h1 : V < LLMIN ∨ V > LLMAX
    · rw [if_pos h1]
    · rw [if_neg h1, if_pos ((Decidable.not_and_iff_or_not.mp hin).imp Int.not_le.mp Int.not_le.mp)]

theorem parseUnsigned_strto (c : Nat) (r : List Nat) (uMax : Nat) (hmax : uMax ≤ ULLMAX) (h45 : c ≠ 45) (h105 : c ≠ 105)
    (h117 : c ≠ 117) {base : Nat} (hb : detectBase (c :: r) = base) (mag used : Nat) (hs : strto (c :: r) base = ⟨false, mag, used⟩)
    (hu : used ≠ 0) :
    parseUnsigned (c :: r) uMax = if mag ≤ uMax then some (mag, used) else none := by
  unfold parseUnsigned
  simp only [beq_false_of_ne h45, Bool.false_and, Bool.false_eq_true, ↓reduceIte, startsWith_ne c r 105 _ (Ne.symm h105),
    startsWith_ne c r 117 _ (Ne.symm h117), startsWith_ne c r 45 _ (Ne.symm h45), hb, hs, beq_false_of_ne hu, false_or]
  by_cases hin : mag ≤ uMax
  · rw [if_neg (Nat.not_lt.mpr (Nat.le_trans hin hmax)), if_neg (Nat.not_lt.mpr hin), if_pos hin]
  · rw [if_neg hin]
    by_cases h1 : mag > ULLMAX
    · rw [if_pos h1]
    · rw [if_neg h1, if_pos (Nat.not_le.mp hin)]

/-- **accepted iff it fits, and then exact**: a decimal text — optional sign, a digit string of ANY length that does not
    start with 0 or has a sign (`hb`), then the end of the text or a non-digit — is accepted for a signed type iff the
    number it denotes lies in the type's range; the value is then that number, the end position right behind the digits. -/
theorem C16_decimal_exact (sg : Sign) (ds k : List Nat) (lo hi : Int)
    (hds : ∀ c ∈ ds, isDigit c = true) (hne : ds ≠ []) (hk : NDS k)
    (hb : detectBase (sg.text ++ (ds ++ k)) = 10) (hlo : LLMIN ≤ lo) (hhi : hi ≤ LLMAX) :
    parseSigned (sg.text ++ (ds ++ k)) lo hi =
      (if lo ≤ sg.apply (val ds 0) ∧ sg.apply (val ds 0) ≤ hi then some (sg.apply (val ds 0), sg.text.length + ds.length) else none) := by
  have hst := strto_decimal sg ds k hds hne hk
  obtain ⟨d, r, rfl⟩ := List.exists_cons_of_ne_nil hne
  have hd : d ≠ 105 := ne_of_isDigit (hds d List.mem_cons_self) rfl
  have hv : (if decide (sg = Sign.minus) = true then -((val (d :: r) 0 : Nat) : Int) else (val (d :: r) 0 : Nat)) = sg.apply (val (d :: r) 0) := by
    cases sg <;> rfl
  have hu : sg.text.length + (d :: r).length ≠ 0 := Nat.ne_of_gt (Nat.lt_add_left _ (Nat.succ_pos _))
  cases sg
  · exact (parseSigned_strto d _ lo hi hlo hhi hd hb _ hst hu).trans (by rw [hv])
  · exact (parseSigned_strto 43 _ lo hi hlo hhi (by decide) hb _ hst hu).trans (by rw [hv])
  · exact (parseSigned_strto 45 _ lo hi hlo hhi (by decide) hb _ hst hu).trans (by rw [hv])

/-- what may follow a decimal text without turning its start into a base prefix -/
def NoBase (k : List Nat) : Prop := ∀ c r, k = c :: r → ¬(c = 120 ∨ c = 88) ∧ ¬(48 ≤ c ∧ c ≤ 55)

theorem detectBase_of_ne {c : Nat} (h : c ≠ 48) (r : List Nat) : detectBase (c :: r) = 10 := by
  unfold detectBase
  split
  · exact absurd (List.cons.inj ‹_›).1 h
  · rfl

theorem detectBase_zero (c : Nat) (r : List Nat) :
    detectBase (48 :: c :: r) = if c = 120 ∨ c = 88 then 16 else if 48 ≤ c ∧ c ≤ 55 then 8 else 10 := by
  simp only [detectBase, Bool.or_eq_true, beq_iff_eq]

theorem digitsAux_head : ∀ (f n : Nat) (acc : List Nat), n < f → 1 ≤ n →
    ∃ d r, digitsAux f n acc = (48 + d) :: r ∧ 1 ≤ d ∧ d ≤ 9 := by
  intro f
  induction f with
  | zero => intro n acc h; exact absurd h (Nat.not_lt_zero _)
  | succ f ih =>
    intro n acc h h1
    unfold digitsAux
    by_cases h10 : n < 10
    · exact ⟨n, acc, if_pos h10, h1, Nat.le_of_lt_succ h10⟩
    · rw [if_neg h10]
      exact ih (n / 10) _ (Nat.lt_of_lt_of_le (Nat.div_lt_self h1 (by decide)) (Nat.le_of_lt_succ h))
        (Nat.div_pos (Nat.le_of_not_lt h10) (by decide))

theorem detectBase_printNat (n : Nat) (k : List Nat) (hk : NoBase k) : detectBase (printNat n ++ k) = 10 := by
  cases n with
  | zero =>
    cases k with
    | nil => rfl
    | cons c r => exact (detectBase_zero c r).trans ((if_neg (hk c r rfl).1).trans (if_neg (hk c r rfl).2))
  | succ n =>
    obtain ⟨d, r, e, hd1, -⟩ := digitsAux_head (n + 2) (n + 1) [] (Nat.lt_succ_self _) (Nat.succ_pos _)
    unfold printNat; rw [e]
    exact detectBase_of_ne (Nat.ne_of_gt (Nat.lt_add_of_pos_right hd1)) _

theorem showSigned_read (v lo hi : Int) (hv : lo ≤ v ∧ v ≤ hi) (hlo : LLMIN ≤ lo) (hhi : hi ≤ LLMAX) (k : List Nat)
    (hk : NDS k) (hb : NoBase k) : parseSigned (showSigned v ++ k) lo hi = some (v, (showSigned v).length) := by
  unfold showSigned StringBuilder.numText
  rw [printInt_eq, List.append_assoc]
  have hb : detectBase ((if v < 0 then Sign.minus else Sign.none).text ++ (printNat v.natAbs ++ k)) = 10 := by
    split
    · rfl
    · exact detectBase_printNat _ k hb
  have h := C16_decimal_exact _ (printNat v.natAbs) k lo hi (printNat_digits _) (printNat_ne_nil _) hk hb hlo hhi
  rw [val_printNat, Sign.apply_natAbs, if_pos hv] at h
  rw [h, List.length_append]

/-- **value → text → value**: the text the library writes for ANY value of a signed type reads back as that value,
    with the end position at the end of the text. -/
theorem C16_roundtrip_signed (v lo hi : Int) (hv : lo ≤ v ∧ v ≤ hi) (hlo : LLMIN ≤ lo) (hhi : hi ≤ LLMAX) :
    parseSigned (showSigned v) lo hi = some (v, (showSigned v).length) := by
  have := showSigned_read v lo hi hv hlo hhi [] NDS_nil nofun
  rwa [List.append_nil] at this

theorem showUnsigned_read (v uMax : Nat) (hv : v ≤ uMax) (hmax : uMax ≤ ULLMAX) (k : List Nat) (hk : NDS k) (hb : NoBase k) :
    parseUnsigned (showUnsigned v uMax ++ k) uMax = some (v, (showUnsigned v uMax).length) := by
  unfold showUnsigned
  by_cases he : v = uMax
  · rw [if_pos he, he]; rfl
  · rw [if_neg he]
    show parseUnsigned (printNat v ++ k) uMax = some (v, (printNat v).length)
    have hst := strto_decimal .none (printNat v) k (printNat_digits _) (printNat_ne_nil _) hk
    have hb := detectBase_printNat v k hb
    rw [val_printNat] at hst
    obtain ⟨d, r, e, hd⟩ := printNat_head_digit v
    rw [e] at hst hb ⊢
    exact (parseUnsigned_strto d _ uMax hmax (ne_of_isDigit hd rfl) (ne_of_isDigit hd rfl) (ne_of_isDigit hd rfl) hb _ _ hst (Nat.succ_ne_zero _)).trans
      (by rw [if_pos hv]; exact congrArg (fun n => some (v, n)) (Nat.zero_add _))

/-- likewise for an unsigned type (whose maximum is written symbolically, `umax`). -/
theorem C16_roundtrip_unsigned (v uMax : Nat) (hv : v ≤ uMax) (hmax : uMax ≤ ULLMAX) :
    parseUnsigned (showUnsigned v uMax) uMax = some (v, (showUnsigned v uMax).length) := by
  have := showUnsigned_read v uMax hv hmax [] NDS_nil nofun
  rwa [List.append_nil] at this

theorem C16_roundtrip_bool (b : Bool) : parseBool (showBool b) = .val b (showBool b).length := by
  cases b <;> decide

-- `hc`: texts are NUL-free; the conversion itself does not depend on it
theorem C16_roundtrip_char (c : Nat) (hc : c ≠ 0) : parseChar [c] = some (c, 1) := by
  unfold parseChar
  split <;> rename_i h <;> cases h <;> rfl

example : parseSigned ([45, 50, 49, 52, 55, 52, 56, 51, 54, 52, 56]) (-2147483648) 2147483647 = some (-2147483648, 11) := by decide +kernel
example : parseSigned ([50, 49, 52, 55, 52, 56, 51, 54, 52, 56]) (-2147483648) 2147483647 = none := by decide +kernel
example : parseSigned ([57, 57, 57, 57, 57, 57, 57, 57, 57, 57, 57, 57, 57, 57, 57, 57, 57, 57, 57, 57, 57, 57, 57, 57, 57, 57, 57, 57, 57, 57, 57, 57]) LLMIN LLMAX = none := by decide +kernel
example : parseUnsigned ([48, 120, 49, 70, 44]) 4294967295 = some (31, 4) := by decide +kernel
example : parseUnsigned ([48, 49, 55]) 4294967295 = some (15, 3) := by decide +kernel

end PotasscoVerif.C16
