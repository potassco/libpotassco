/-
  C16 (continued) — pairs and lists: value → text → value.

  Generic in the member type: an element parser `p` and printer `s` are *matched behind a separator* when the text of a value,
  followed by the separator (or by nothing, or by the closing bracket) and anything, is converted to that value using exactly its
  characters.  For such members the composite conversions invert the composite printers.  The integer types are matched
  (`matched_signed`, `matched_unsigned`: the texts end where the digits end).
-/
import PotasscoVerif.Props.C16b
namespace PotasscoVerif.C16
open PotasscoVerif PotasscoVerif.StringConvert PotasscoVerif.Decimal PotasscoVerif.AspifOut
open PotasscoVerif.BufferedStream (isDigit)

/-- what may follow a member: nothing, or a character that neither continues a number nor starts a base prefix -/
def Stop (k : List Nat) : Prop := ∀ c r, k = c :: r → isDigit c = false ∧ c ≠ 120 ∧ c ≠ 88

def Matched {α : Type} (p : List Nat → Option (α × Nat)) (s : α → List Nat) (Ok : α → Prop) : Prop :=
  ∀ v, Ok v → ∀ k, Stop k → p (s v ++ k) = some (v, (s v).length)

theorem stop_nil : Stop [] := nofun
theorem stop_cons {c : Nat} (h : isDigit c = false ∧ c ≠ 120 ∧ c ≠ 88) (r : List Nat) : Stop (c :: r) := by
  intro x t e; cases e; exact h
theorem stop_nds {k : List Nat} (h : Stop k) : NDS k := fun c r e => (h c r e).1
theorem stop_base {k : List Nat} (h : Stop k) : NoBase k := by
  intro c r e
  obtain ⟨h1, h2, h3⟩ := h c r e
  refine ⟨fun hc => hc.elim h2 h3, fun ho => ?_⟩
  rw [isDigit, decide_eq_true ho.1, decide_eq_true (Nat.le_trans ho.2 (by decide))] at h1
  cases h1

theorem matched_signed (lo hi : Int) (hlo : LLMIN ≤ lo) (hhi : hi ≤ LLMAX) :
    Matched (fun x => parseSigned x lo hi) showSigned (fun v => lo ≤ v ∧ v ≤ hi) :=
  fun v hv k hk => showSigned_read v lo hi hv hlo hhi k (stop_nds hk) (stop_base hk)

theorem matched_unsigned (uMax : Nat) (hmax : uMax ≤ ULLMAX) :
    Matched (fun x => parseUnsigned x uMax) (fun v => showUnsigned v uMax) (fun v => v ≤ uMax) :=
  fun v hv k hk => showUnsigned_read v uMax hv hmax k (stop_nds hk) (stop_base hk)

/-- **accepted iff it fits, and then exact** — decimal texts (optionally with `+`) of any length for unsigned types -/
theorem C16_decimal_exact_unsigned (plus : Bool) (ds k : List Nat) (uMax : Nat) (hds : ∀ c ∈ ds, isDigit c = true) (hne : ds ≠ []) (hk : NDS k)
    (hb : detectBase ((if plus then [43] else []) ++ (ds ++ k)) = 10) (hmax : uMax ≤ ULLMAX) :
    parseUnsigned ((if plus then [43] else []) ++ (ds ++ k)) uMax =
      (if CharStream.val ds 0 ≤ uMax then some (CharStream.val ds 0, (if plus then 1 else 0) + ds.length) else none) := by
  obtain ⟨d, r, rfl⟩ := List.exists_cons_of_ne_nil hne
  have hd := hds d List.mem_cons_self
  cases plus
  · simp only [Bool.false_eq_true, ↓reduceIte, List.nil_append] at hb ⊢
    exact parseUnsigned_strto d (r ++ k) uMax hmax (ne_of_isDigit hd rfl) (ne_of_isDigit hd rfl) (ne_of_isDigit hd rfl) hb (CharStream.val (d :: r) 0) (0 + (d :: r).length)
      (strto_decimal .none (d :: r) k hds hne hk) (Nat.succ_ne_zero _)
  · simp only [↓reduceIte, List.cons_append, List.nil_append] at hb ⊢
    exact parseUnsigned_strto 43 (d :: (r ++ k)) uMax hmax (by decide) (by decide) (by decide) hb (CharStream.val (d :: r) 0)
      (1 + (d :: r).length) (strto_decimal .plus (d :: r) k hds hne hk) (Nat.succ_ne_zero _)

def SepOk (sep : Nat) : Prop := isDigit sep = false ∧ sep ≠ 120 ∧ sep ≠ 88 ∧ sep ≠ 40

theorem SepOk.stop {sep : Nat} (h : SepOk sep) (r : List Nat) : Stop (sep :: r) := stop_cons ⟨h.1, h.2.1, h.2.2.1⟩ r

theorem parsePair_read {α β : Type} (pT : List Nat → Option (α × Nat)) (pU : List Nat → Option (β × Nat)) (sep : Nat) (x : List Nat) (old : α × β)
    (ps : Nat) (hps : (if x.head? = some 40 then 1 else 0) = ps) (a : α) (b : β) (ta tb post : List Nat)
    (hx : x.drop ps = ta ++ sep :: (tb ++ post)) (h1 : pT (ta ++ sep :: (tb ++ post)) = some (a, ta.length)) (hne : tb ≠ [])
    (h2 : pU (tb ++ post) = some (b, tb.length)) (hclose : ps = 0 ∨ post.head? = some 41) :
    parsePair pT pU sep x old = (2, (a, b), ps + (ta ++ sep :: tb).length + ps) := by
  rw [List.length_append, List.length_cons, ← Nat.add_assoc, ← Nat.add_assoc, Nat.add_right_comm _ tb.length]
  have hd1 : x.drop (ps + ta.length) = sep :: (tb ++ post) := by rw [← List.drop_drop, hx, List.drop_left]
  have hd2 : x.drop (ps + ta.length + 1 + tb.length) = post := by
    rw [Nat.add_assoc, ← List.drop_drop, hd1, Nat.add_comm, List.drop_succ_cons, List.drop_left]
  have hne' : (tb ++ post).isEmpty = false := by
    obtain ⟨c, t, rfl⟩ := List.exists_cons_of_ne_nil hne; rfl
  unfold parsePair
  simp only [hps, hx, h1, Option.isSome_some, hd1, List.head?_cons, List.drop_succ_cons, List.drop_zero, hne', Bool.not_false,
    Bool.and_self, decide_true, ↓reduceIte, h2, hd2, hclose, true_or]
  rfl

/-- **C16 (pairs)**: the text `first sep second` of a pair of matched members is converted back to exactly the pair, both members counted,
    the end position at the end of the text -/
theorem C16_pair_roundtrip {α β : Type} (pT : List Nat → Option (α × Nat)) (pU : List Nat → Option (β × Nat)) (sT : α → List Nat) (sU : β → List Nat)
    (OkT : α → Prop) (OkU : β → Prop) (hT : Matched pT sT OkT) (hU : Matched pU sU OkU) (sep : Nat) (hsep : SepOk sep)
    (a : α) (b : β) (ha : OkT a) (hb : OkU b) (h40 : ∀ r, sT a ≠ 40 :: r) (hne : sU b ≠ []) (old : α × β) :
    parsePair pT pU sep (showPair sT sU sep (a, b)) old = (2, (a, b), (showPair sT sU sep (a, b)).length) := by
  have hhead : (sT a ++ sep :: sU b).head? ≠ some 40 := by
    cases hs : sT a with
    | nil => exact fun h => hsep.2.2.2 (Option.some.inj h)
    | cons c r => exact fun h => h40 r (by rw [hs, Option.some.inj h])
  have hx : (showPair sT sU sep (a, b)).drop 0 = sT a ++ sep :: (sU b ++ []) := by rw [List.append_nil]; rfl
  refine (parsePair_read pT pU sep _ old 0 (if_neg hhead) a b (sT a) (sU b) [] hx ?_ hne (hU b hb [] stop_nil) (.inl rfl)).trans ?_
  · exact hT a ha _ (hsep.stop _)
  · rw [Nat.zero_add]; rfl

/-- the same in parentheses -/
theorem C16_pair_paren {α β : Type} (pT : List Nat → Option (α × Nat)) (pU : List Nat → Option (β × Nat)) (sT : α → List Nat) (sU : β → List Nat)
    (OkT : α → Prop) (OkU : β → Prop) (hT : Matched pT sT OkT) (hU : Matched pU sU OkU) (sep : Nat) (hsep : SepOk sep)
    (a : α) (b : β) (ha : OkT a) (hb : OkU b) (hne : sU b ≠ []) (old : α × β) :
    parsePair pT pU sep (40 :: (showPair sT sU sep (a, b) ++ [41])) old = (2, (a, b), (showPair sT sU sep (a, b)).length + 2) := by
  have hx : (40 :: (showPair sT sU sep (a, b) ++ [41])).drop 1 = sT a ++ sep :: (sU b ++ [41]) := by
    show (sT a ++ sep :: sU b) ++ [41] = _; rw [List.append_assoc, List.cons_append]
  refine (parsePair_read pT pU sep _ old 1 rfl a b (sT a) (sU b) [41] hx ?_ hne ?_ (.inr rfl)).trans ?_
  · exact hT a ha _ (hsep.stop _)
  · exact hU b hb [41] (stop_cons ⟨rfl, by decide, by decide⟩ _)
  · rw [Nat.add_comm 1]; rfl

theorem showSeq_cons2 {α : Type} (sT : α → List Nat) (sep : Nat) (v w : α) (r : List α) : showSeq sT sep (v :: w :: r) = sT v ++ sep :: showSeq sT sep (w :: r) := rfl

theorem showSeq_head {α : Type} (sT : α → List Nat) (sep : Nat) (v : α) (r : List α) : ∃ t, showSeq sT sep (v :: r) = sT v ++ t := by
  cases r with
  | nil => exact ⟨[], (List.append_nil _).symm⟩
  | cons w t => exact ⟨_, rfl⟩

theorem parseSeqLoop_show {α : Type} (pT : List Nat → Option (α × Nat)) (sT : α → List Nat) (Ok : α → Prop) (hT : Matched pT sT Ok) (sep : Nat) (hsep : SepOk sep)
    (k : List Nat) (hk : Stop k) (hksep : k.head? ≠ some sep) :
    ∀ (l : List α), l ≠ [] → (∀ v ∈ l, Ok v ∧ sT v ≠ []) → ∀ (f : Nat) (x : List Nat) (pos : Nat) (acc : List α), (showSeq sT sep l).length < f →
      x.drop pos = showSeq sT sep l ++ k →
      parseSeqLoop pT sep f x pos acc = (acc ++ l, pos + (showSeq sT sep l).length) := by
  intro l
  induction l with
  | nil => intro h; exact absurd rfl h
  | cons v l ih =>
    intro _ hok f x pos acc hf hx
    cases f with
    | zero => exact absurd hf (Nat.not_lt_zero _)
    | succ f =>
    cases l with
    | nil =>
      replace hx : x.drop pos = sT v ++ k := hx
      show _ = (acc ++ [v], pos + (sT v).length)
      have hn : x.drop (pos + (sT v).length) = k := by rw [← List.drop_drop, hx]; exact List.drop_left
      rw [parseSeqLoop, hx, hT v (hok v List.mem_cons_self).1 k hk]
      simp only [hn]
      cases k with
      | nil => rfl
      | cons c t => rw [if_pos (by simpa using Or.inl fun e => hksep (congrArg some e))]
    | cons w t =>
      rw [showSeq_cons2] at hx hf ⊢
      rw [List.append_assoc, List.cons_append] at hx
      rw [List.length_append, List.length_cons] at hf
      have hn : x.drop (pos + (sT v).length) = sep :: (showSeq sT sep (w :: t) ++ k) := by
        rw [← List.drop_drop, hx]; exact List.drop_left
      have hn1 : x.drop (pos + (sT v).length + 1) = showSeq sT sep (w :: t) ++ k := by rw [← List.drop_drop, hn]; rfl
      have hne : (showSeq sT sep (w :: t) ++ k).isEmpty = false := by
        obtain ⟨r, e⟩ := showSeq_head sT sep w t
        obtain ⟨c, r', e'⟩ := List.exists_cons_of_ne_nil (hok w (List.mem_cons_of_mem _ List.mem_cons_self)).2
        rw [e, e']; rfl
      rw [parseSeqLoop, hx, hT v (hok v List.mem_cons_self).1 _ (hsep.stop _)]
      simp only [hn, List.isEmpty_cons, List.head?_cons, bne_self_eq_false, List.drop_succ_cons, List.drop_zero, hne, Bool.or_self,
        Bool.false_eq_true, ↓reduceIte]
      rw [ih (List.cons_ne_nil _ _) (fun y hy => hok y (List.mem_cons_of_mem _ hy)) f x _ _
        (Nat.lt_of_le_of_lt (Nat.le_add_left _ _) (Nat.lt_of_succ_lt_succ hf)) hn1]
      rw [List.append_assoc, List.length_append, List.length_cons, Nat.add_assoc, Nat.add_assoc, Nat.add_comm 1]
      rfl

/-- **C16 (lists)**: the text `v1 sep v2 … sep vn` of a non-empty list of matched members is converted back to exactly the list, the end
    position at the end of the text -/
theorem C16_list_roundtrip {α : Type} (pT : List Nat → Option (α × Nat)) (sT : α → List Nat) (Ok : α → Prop) (hT : Matched pT sT Ok) (sep : Nat) (hsep : SepOk sep)
    (l : List α) (hl : l ≠ []) (hok : ∀ v ∈ l, Ok v ∧ sT v ≠ []) (h91 : (showSeq sT sep l).head? ≠ some 91) :
    parseSeq pT sep (showSeq sT sep l) = (l, (showSeq sT sep l).length) := by
  have := parseSeqLoop_show pT sT Ok hT sep hsep [] stop_nil nofun l hl hok ((showSeq sT sep l).length + 1) (showSeq sT sep l) 0 []
    (Nat.lt_succ_self _) (List.append_nil _).symm
  unfold parseSeq
  simp only [h91, ↓reduceIte, this, true_or, Nat.add_zero, List.nil_append, Nat.zero_add]

theorem numText_ne_nil (v : Int) : StringBuilder.numText v ≠ [] := by
  unfold StringBuilder.numText; rw [printInt_eq]; exact List.append_ne_nil_of_right_ne_nil _ (printNat_ne_nil _)

theorem showSigned_head (v : Int) : ∃ c r, showSigned v = c :: r ∧ (c = 45 ∨ isDigit c = true) := by
  unfold showSigned StringBuilder.numText printInt
  split
  · exact ⟨45, _, rfl, Or.inl rfl⟩
  · obtain ⟨d, t, e, hd⟩ := printNat_head_digit v.toNat
    exact ⟨d, t, e, Or.inr hd⟩

/-- `pair<int, unsigned>` and `vector<int>` as the library instantiates them -/
theorem C16_pair_int_unsigned (a : Int) (b : Nat) (ha : -2147483648 ≤ a ∧ a ≤ 2147483647) (hb : b ≤ 4294967295) (old : Int × Nat) :
    parsePair (fun x => parseSigned x (-2147483648) 2147483647) (fun x => parseUnsigned x 4294967295) 44
      (showPair showSigned (fun v => showUnsigned v 4294967295) 44 (a, b)) old =
      (2, (a, b), (showPair showSigned (fun v => showUnsigned v 4294967295) 44 (a, b)).length) := by
  apply C16_pair_roundtrip _ _ _ _ _ _ (matched_signed _ _ (by decide) (by decide)) (matched_unsigned _ (by decide)) 44 ⟨rfl, by decide, by decide, by decide⟩ a b ha hb
  · intro r h
    obtain ⟨c, t, e, hc⟩ := showSigned_head a
    cases e.symm.trans h
    rcases hc with h | h <;> cases h
  · unfold showUnsigned
    split
    · exact List.cons_ne_nil _ _
    · exact numText_ne_nil _

theorem C16_list_int (l : List Int) (hl : l ≠ []) (hr : ∀ v ∈ l, -2147483648 ≤ v ∧ v ≤ 2147483647) :
    parseSeq (fun x => parseSigned x (-2147483648) 2147483647) 44 (showSeq showSigned 44 l) = (l, (showSeq showSigned 44 l).length) := by
  apply C16_list_roundtrip _ _ _ (matched_signed _ _ (by decide) (by decide)) 44 ⟨rfl, by decide, by decide, by decide⟩ l hl
    fun v hv => ⟨hr v hv, numText_ne_nil v⟩
  obtain ⟨v, r, rfl⟩ := List.exists_cons_of_ne_nil hl
  obtain ⟨t, e⟩ := showSeq_head showSigned 44 v r
  obtain ⟨c, t', e', hc⟩ := showSigned_head v
  rw [e, e']
  intro h
  cases h
  rcases hc with h | h <;> cases h

example : parsePair (fun x => parseSigned x (-2147483648) 2147483647) (fun x => parseUnsigned x 4294967295) 44 [45, 53, 44, 117, 109, 97, 120] ((0 : Int), (0 : Nat)) = (2, (-5, 4294967295), 7) := by decide +kernel
example : parseSeq (fun x => parseSigned x (-2147483648) 2147483647) 44 [49, 44, 45, 50, 44, 51] = ([1, -2, 3], 6) := by decide +kernel
/-- the quirk of the pair conversion on an empty text: one member is "converted", nothing is assigned -/
example : parsePair (fun x => parseSigned x (-2147483648) 2147483647) (fun x => parseUnsigned x 4294967295) 44 [] ((7 : Int), (9 : Nat)) = (1, (7, 9), 0) := by decide +kernel

end PotasscoVerif.C16
