/-
  C07 — smodels reader accepts exactly well-formed input and never alters a number.

  The smodels reader model (Model/SmodelsIn.lean) reads every number through the same field matchers
  (`pos`, `posMax`, `atom` = `intIn lo hi`) as the aspif reader, so "a number is never altered" is
  `C03_number_exact` / `C03_reject_out_of_range` (digit strings of any length), instantiated in `C07_fields_exact`
  for the bounds the smodels fields use.
  Acceptance ↔ the declarative smodels grammar (`C07_sound`, `C07_complete`) is Props/C07b.lean.
-/
import PotasscoVerif.Props.C03
import PotasscoVerif.Model.SmodelsIn
namespace PotasscoVerif.C07
open PotasscoVerif.CharStream PotasscoVerif.Decimal PotasscoVerif.AspifIn PotasscoVerif.SmodelsIn
open PotasscoVerif.BufferedStream (isWs isDigit I64MAX)

/-- the bounds of the smodels fields: counts/rule types 0..2^32-1; atoms 1..atomMax resp. 0..atomMax;
    bounds and weights 0..2^31-1; external value 0..2. -/
theorem C07_fields_exact (lo hi : Int) (hf : (lo, hi) ∈ [(0, (U32MAX : Int)), ((Gen.atomMin : Int), (Gen.atomMax : Int)),
      (0, (Gen.atomMax : Int)), (0, I32MAX), (0, 2)])
    (a : AS) (sg : Sign) (ds ws k : List Nat)
    (hr : a.rest = ws ++ (sg.text ++ (ds ++ k))) (hws : ∀ c ∈ ws, isWs c = true)
    (hds : ∀ c ∈ ds, isDigit c = true) (hne : ds ≠ []) (hk : NDS k) :
    (∀ v a', intIn lo hi a = .ok (v, a') → v = C03.denoted sg ds) ∧
    (¬ (lo ≤ C03.denoted sg ds ∧ C03.denoted sg ds ≤ hi) → ∃ l, intIn lo hi a = .error l) := by
  have hb : -(I64MAX : Int) < lo ∧ hi < I64MAX := by
    simp only [List.mem_cons, Prod.mk.injEq, List.not_mem_nil, or_false] at hf
    rcases hf with h | h | h | h | h <;> (rw [h.1, h.2]; decide)
  exact ⟨fun v a' hok => (C03.C03_number_exact lo hi a sg ds ws k hr hws hds hne hk hb.1 hb.2 v a' hok).1,
    C03.C03_reject_out_of_range lo hi a sg ds ws k hr hws hds hne hk hb.1 hb.2⟩

/-- **clasp-extension rule types are refused unless extensions were enabled**, whatever follows them. -/
theorem C07_ext_gating (rt : Nat) (hrt : rt = 90 ∨ rt = 91 ∨ rt = 92) (prio : Nat) (a : AS) :
    ruleOf false rt prio a = .error a.line := by
  rcases hrt with h | h | h <;> subst h <;>
    simp [ruleOf, Choice, Disjunctive, Basic, Cardinality, Weight, Optimize, ClaspIncrement, ClaspAssignExt,
      ClaspReleaseExt, throw, throwThe, MonadExceptOf.throw, bind, Except.bind]

/-- a text that starts with `9` (an incremental program) is refused without extensions, with no call made. -/
theorem C07_incremental_needs_ext (r : List Nat) : SmodelsIn.read false (57 :: r) = { calls := [], err := some 1 } := by
  simp [SmodelsIn.read, AS.init, AS.peek, BufferedStream.isDigit]

/-- the value written for rule 91 (`(v ^ 3) - 1`) is decoded by the same formula: a bijection on 0..2. -/
theorem C07_assign_values : ∀ v ∈ [0, 1, 2], (((v ^^^ 3) - 1) ^^^ 3) - 1 = v := by decide

/-! non-vacuity -/
example : (SmodelsIn.read false (AspifOut.str "5 1 3000000000 1 0 2 1\n0\n0\nB+\n0\nB-\n0\n1\n")).err = some 1 := by
  rw [AspifOut.str_ofList]; decide +kernel
example : SmodelsIn.read true (AspifOut.str "90 0\n3 2 1 2 1 1 3\n6 0 2 1 4 5 7 0\n91 3 2\n0\n1 a b\n0\nB+\n2\n0\nB-\n0\nE\n4\n0\n1\n") =
    { calls := [.initProgram true, .beginStep, .rule 1 [1, 2] [-3], .minimize 0 [(-4, 7), (5, 0)], .external 3 0,
                .output [97, 32, 98] [1], .rule 0 [] [-2], .external 4 0, .endStep], err := none } := by
  rw [AspifOut.str_ofList]; decide +kernel

end PotasscoVerif.C07
