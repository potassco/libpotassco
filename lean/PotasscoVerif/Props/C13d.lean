/-
  C13 (continued) — the argc/argv entry point `parseCommandLine(int& argc, char** argv, …)`.
  That the rewritten vector fits in the cells that held tokens before rests on `C13_remaining_sublist`, and that on `Adv`: a handler adds
  nothing to `remaining` and takes tokens from the front only.
-/
import PotasscoVerif.Props.C13b
namespace PotasscoVerif.C13
open PotasscoVerif.Options PotasscoVerif.OptIndex

def Adv (p p' : PState) : Prop := p'.remaining = p.remaining ∧ (p'.toks = p.toks ∨ p'.toks = p.toks.tail)

theorem adv_addValue (p : PState) (k : Nat) (v : List Nat) : Adv p (p.addValue k v) := ⟨rfl, Or.inl rfl⟩

theorem Adv.trans_add {p q : PState} (k : Nat) (v : List Nat) (h : Adv (p.addValue k v) q) : Adv p q := h

theorem handleLong_adv (c : Context) (aU aF : Bool) (nm : List Nat) (p : PState) (b : Bool) (p' : PState)
    (h : handleLong c aU aF nm p = .ok (b, p')) : Adv p p' := by
  revert h
  -- the cases of `handleLong`: 1 lookup error, 2 no option, 3 value in the next token, 4 no next token, 5 flag with a value, 6 value (or none) in this token
  fun_cases handleLong c aU aF nm p with
  | case1 | case4 | case5 => exact nofun
  | case2 => intro h; cases h; exact ⟨rfl, Or.inl rfl⟩
  | case3 => intro h; cases h; exact ⟨rfl, Or.inr (by rw [‹p.toks = _›]; rfl)⟩
  | case6 => intro h; cases h; exact adv_addValue ..

theorem handleShort_adv (c : Context) (aU : Bool) (f : Nat) (nm : List Nat) (p : PState) (b : Bool) (p' : PState)
    (h : handleShort c aU f nm p = .ok (b, p')) : Adv p p' := by
  -- the cases of `handleShort`: 1, 2 nothing left, 3 lookup error, 4 no option, 5 implicit value: what is attached, 6 flag: on with the rest of the
  -- group, 7 attached value, 8 value in the next token, 9 no next token
  fun_induction handleShort c aU f nm p with
  | case1 | case2 | case4 => cases h; exact ⟨rfl, Or.inl rfl⟩
  | case3 | case9 => cases h
  | case5 | case7 => cases h; exact adv_addValue ..
  | case6 _ _ _ _ _ _ _ _ _ ih => exact Adv.trans_add _ _ (ih h)
  | case8 => cases h; rename_i hx; exact ⟨rfl, Or.inr (by rw [hx]; rfl)⟩

theorem handlePos_adv (c : Context) (aU : Bool) (pos : Option (List Nat)) (tok : List Nat) (p : PState) (b : Bool) (p' : PState)
    (h : handlePos c aU pos tok p = .ok (b, p')) : Adv p p' := by
  revert h
  fun_cases handlePos c aU pos tok p with
  | case1 => exact nofun
  | case2 => intro h; cases h; exact ⟨rfl, Or.inl rfl⟩
  | case3 => intro h; cases h; exact adv_addValue ..

theorem dispatch_adv {c : Context} {aU aF : Bool} {pos : Option (List Nat)} {curr : List Nat} {p : PState} {res : Bool × PState}
    (h : dispatch c aU aF pos curr p = .ok res) : Adv p res.2 := by
  revert h
  fun_cases dispatch c aU aF pos curr p with
  | case1 => exact handleLong_adv _ _ _ _ _ _ _
  | case2 => exact handleShort_adv _ _ _ _ _ _ _
  | case3 => exact handlePos_adv _ _ _ _ _ _ _

theorem parseLoop_sublist (c : Context) (aU aF : Bool) (pos : Option (List Nat)) (f : Nat) (p r : PState)
    (h : parseLoop c aU aF pos f p = .ok r) : (r.remaining ++ r.toks).Sublist (p.remaining ++ p.toks) := by
  induction f generalizing p with
  | zero => cases h; exact List.Sublist.refl _
  | succ f ih =>
    obtain ⟨toks, vs, rm⟩ := p
    cases toks with
    | nil => cases h; exact List.Sublist.refl _
    | cons curr rest =>
      by_cases hc : curr = [45, 45]
      · rw [hc, C13_terminator c aU aF pos f _ rest rfl] at h
        cases h; rw [List.append_nil]; exact List.Sublist.append_left (List.sublist_cons_self _ _) _
      · rw [parseLoop_cons c aU aF pos f curr rest vs rm hc] at h
        cases hd : dispatch c aU aF pos curr { toks := rest, values := vs, remaining := rm } with
        | error e => rw [hd] at h; cases h
        | ok res =>
          rw [hd] at h
          obtain ⟨hrm, htk⟩ := dispatch_adv hd
          have hs : res.2.toks.Sublist rest := by
            obtain e | e := htk <;> rw [e]
            · exact List.Sublist.refl _
            · exact List.tail_sublist _
          refine (ih _ h).trans ?_
          obtain ⟨_ | _, q⟩ := res
          · show ((q.remaining ++ [curr]) ++ q.toks).Sublist _
            rw [hrm, List.append_assoc]
            exact List.Sublist.append_left (List.Sublist.cons_cons _ hs) _
          · show (q.remaining ++ q.toks).Sublist _
            rw [hrm]
            exact List.Sublist.append_left (List.Sublist.cons _ hs) _

/-- **C13_remaining_sublist.** Whatever the token list, what is left over is a sub-list of the tokens given: same order, none invented. -/
theorem C13_remaining_sublist (c : Context) (aU aF : Bool) (pos : Option (List Nat)) (ts : List (List Nat)) (r : PState)
    (h : parseArgv c aU aF pos ts = .ok r) : r.remaining.Sublist ts :=
  (List.sublist_append_left _ _).trans (parseLoop_sublist c aU aF pos _ _ r h)

/-- the argv vector of a C program: name, tokens, null pointer, whatever lies behind -/
def vector (prog : List Nat) (ts : List (List Nat)) (junk : List (Option (List Nat))) : List (Option (List Nat)) :=
  some prog :: (ts.map some ++ none :: junk)

theorem takeWhile_some {α} (l : List α) (k : List (Option α)) : ((l.map some ++ none :: k).takeWhile Option.isSome) = l.map some := by
  induction l with
  | nil => simp
  | cons x l ih => simp [ih]

/-- **C13_cmdline.** On a well-formed vector and any caller count between 1 and the real count, the call parses exactly the tokens, rewrites the
    vector to program name, remaining tokens, null pointer, and sets argc to 1 + their number. -/
theorem C13_cmdline (c : Context) (aU aF : Bool) (pos : Option (List Nat)) (prog : List Nat) (ts : List (List Nat))
    (junk : List (Option (List Nat))) (argc0 : Nat) (h1 : 1 ≤ argc0) (h2 : argc0 ≤ ts.length + 1) :
    cmdLine c aU aF pos argc0 (vector prog ts junk) =
      match parseArgv c aU aF pos ts with
      | .error e => .error e
      | .ok p => .ok (p, 1 + p.remaining.length,
          vector prog p.remaining ((ts.map some ++ none :: junk).drop (p.remaining.length + 1))) := by
  obtain ⟨n, rfl⟩ : ∃ n, argc0 = n + 1 := ⟨argc0 - 1, by omega⟩
  have hn : n ≤ ts.length := by omega
  have hargc : (n + 1) + (((vector prog ts junk).drop (n + 1)).takeWhile Option.isSome).length = ts.length + 1 := by
    have : (ts.map some ++ none :: junk).drop n = (ts.drop n).map some ++ none :: junk := by
      rw [List.drop_append_of_le_length (by simpa using hn), List.map_drop]
    simp only [vector, List.drop_succ_cons, this, takeWhile_some, List.length_map, List.length_drop]
    omega
  have htoks : (((vector prog ts junk).take (ts.length + 1)).drop 1).filterMap id = ts := by
    simp only [vector, List.take_succ_cons, List.drop_succ_cons, List.drop_zero]
    rw [List.take_append_of_le_length (by simp), List.take_of_length_le (by simp), List.filterMap_map]
    exact List.filterMap_some
  unfold cmdLine
  simp only [hargc, htoks]
  cases hp : parseArgv c aU aF pos ts with
  | error e => rfl
  | ok p =>
    simp only [vector]
    congr 2
    simp [List.append_assoc]

theorem drop_rewritten {α} (A B : List α) (x : α) (r n : Nat) (hA : A.length = r) (h : r ≤ n) :
    (A ++ x :: B.drop (r + 1)).drop (n + 1) = B.drop (n + 1) := by
  subst hA
  rw [List.drop_append, List.drop_of_length_le (by omega), List.nil_append,
    show n + 1 - A.length = (n - A.length) + 1 by omega, List.drop_succ_cons, List.drop_drop]
  congr 1; omega

/-- The rewritten part lies inside the cells that held the program name and the tokens: the vector keeps its length, and no cell behind the
    original null pointer is written. -/
theorem C13_cmdline_in_place (c : Context) (aU aF : Bool) (pos : Option (List Nat)) (prog : List Nat) (ts : List (List Nat))
    (junk : List (Option (List Nat))) (p : PState) (h : parseArgv c aU aF pos ts = .ok p) :
    p.remaining.length + 1 ≤ ts.length + 1 ∧
    (vector prog p.remaining ((ts.map some ++ none :: junk).drop (p.remaining.length + 1))).length = (vector prog ts junk).length ∧
    (vector prog p.remaining ((ts.map some ++ none :: junk).drop (p.remaining.length + 1))).drop (ts.length + 2) = junk := by
  have hl := (C13_remaining_sublist c aU aF pos ts p h).length_le
  refine ⟨by omega, ?_, ?_⟩
  · simp [vector]; omega
  · simp only [vector, List.drop_succ_cons]
    rw [drop_rewritten _ _ _ _ _ (by simp) hl]
    rw [List.drop_append, List.drop_of_length_le (by simp), List.nil_append]; simp

example : cmdLine exCtx false false none 1 (vector [112] [dd ++ ([110, 117] ++ 61 :: [51]), [45, 118], dd, [120]] [some [7]]) =
    .ok ({ toks := [], values := [(0, [51]), (1, [])], remaining := [[120]] }, 2, [some [112], some [120], none, some dd, some [120], none, some [7]]) := by rfl

end PotasscoVerif.C13
